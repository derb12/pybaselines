import PbVerif.Lemmas.Perm
import PbVerif.Gen.Registry
/-! C02 — results do not depend on the order in which x (and z) are supplied: proved of the 1-D and 2-D wrappers around an
arbitrary core; a table obligation ties the real methods to the wrapper theorems. -/
namespace PbVerif.C02
open PbVerif.Perm

/-- `_inverted_sort` left-inverts the sort order, entry by entry. -/
theorem invertedSort_left (σ : List Nat) (hσ : σ.Perm (List.range σ.length)) (i : Nat) (hi : i < σ.length) :
    (invertedSort σ).getD (σ.getD i 0) 0 = i := Lemmas.invertedSort_left σ hσ i hi

/-- `a[σ][σ⁻¹] = a`: un-sorting after sorting returns the caller's array. -/
theorem take_take_inverted {α} (a : List α) (d : α) (σ : List Nat) (hσ : σ.Perm (List.range σ.length))
    (ha : a.length = σ.length) : takeL (takeL a d σ) d (invertedSort σ) = a :=
  Lemmas.take_take_inverted a d σ hσ ha

/-- `a[σ⁻¹][σ] = a`. -/
theorem take_inverted_take {α} (a : List α) (d : α) (σ : List Nat) (hσ : σ.Perm (List.range σ.length))
    (ha : a.length = σ.length) : takeL (takeL a d (invertedSort σ)) d σ = a := by
  rw [Lemmas.takeL_takeL _ _ (Lemmas.invertedSort_perm hσ) hσ,
    Lemmas.takeL_invertedSort_self hσ, Lemmas.takeL_range_right a d ha]

/-- the stable argsort is a permutation of the index set and sorts x -/
theorem argsort_perm (x : List Rat) : (argsort x).Perm (List.range x.length) := Lemmas.argsort_perm x
theorem argsort_sorted (x : List Rat) : (takeL x 0 (argsort x)).Pairwise (· ≤ ·) := Lemmas.argsort_sorted x

/-- `_determine_sorts` skips sorting exactly when x is already non-decreasing -/
theorem determineSorts_none_iff (x : List Rat) : determineSorts x = none ↔ x.Pairwise (· ≤ ·) :=
  Lemmas.determineSorts_none_iff x

/-- **1-D.** For every core that returns per-point arrays, every x with pairwise distinct values, every y, optional weights
and every permutation π of the index set: the wrapped method on consistently permuted inputs returns the correspondingly
permuted baseline and per-point parameters. Nothing is assumed of what `core` computes: both calls hand it the same sorted arrays. -/
theorem run1d_equivariant
    (core : List Rat → List Rat → Option (List Rat) → List Rat × List (List Rat))
    (hcore : ∀ xs ys ws, (core xs ys ws).1.length = xs.length ∧ ∀ a ∈ (core xs ys ws).2, a.length = xs.length)
    (x y : List Rat) (w : Option (List Rat)) (π : List Nat)
    (hx : x.Nodup) (hy : y.length = x.length) (hw : ∀ v, w = some v → v.length = x.length)
    (hπ : π.Perm (List.range x.length)) :
    run1d core (takeL x 0 π) (takeL y 0 π) (w.map (takeL · 0 π)) =
      ((takeL (run1d core x y w).1 0 π), (run1d core x y w).2.map (takeL · 0 π)) := by
  rw [Lemmas.run1d_normal core hcore x y w hy hw,
    Lemmas.run1d_normal core hcore (takeL x 0 π) (takeL y 0 π) (w.map (takeL · 0 π)) (by simp)
      (by rintro v hv; obtain ⟨u, -, rfl⟩ := Option.map_eq_some_iff.1 hv; simp)]
  simp only [Option.map_map, List.map_map, Function.comp_def, Lemmas.takeL_takeL_argsort x hx hπ,
    Lemmas.takeL_invertedSort_argsort x hx hπ]

/-- non-vacuity: a concrete unsorted x and a core that really uses its inputs; the wrapper sorts, calls the core and un-sorts -/
example : run1d (fun xs ys _ => (List.zipWith (· * ·) xs ys, [ys])) [3, 1, 2] [30, 10, 20] none
    = ([90, 10, 40], [[30, 10, 20]]) := by decide +kernel

/-- **2-D**: rows permuted by πx and columns by πz (either may be the identity). -/
theorem run2d_equivariant
    (core : List Rat → List Rat → List (List Rat) → Option (List (List Rat)) →
      List (List Rat) × List (List (List Rat)))
    (hcore : ∀ xs zs ys ws, let r := core xs zs ys ws
        (r.1.length = xs.length ∧ ∀ row ∈ r.1, row.length = zs.length) ∧
        ∀ a ∈ r.2, a.length = xs.length ∧ ∀ row ∈ a, row.length = zs.length)
    (x z : List Rat) (y : List (List Rat)) (w : Option (List (List Rat))) (πx πz : List Nat)
    (hx : x.Nodup) (hz : z.Nodup)
    (hy : y.length = x.length ∧ ∀ row ∈ y, row.length = z.length)
    (hw : ∀ v, w = some v → v.length = x.length ∧ ∀ row ∈ v, row.length = z.length)
    (hπx : πx.Perm (List.range x.length)) (hπz : πz.Perm (List.range z.length)) :
    run2d core (takeL x 0 πx) (takeL z 0 πz) (sort2d y (some πx) (some πz))
        (w.map (sort2d · (some πx) (some πz))) =
      (sort2d (run2d core x z y w).1 (some πx) (some πz),
       (run2d core x z y w).2.map (sort2d · (some πx) (some πz))) := by
  rw [Lemmas.run2d_normal core hcore x z y w hy hw,
    Lemmas.run2d_normal core hcore _ _ _ _ (by simpa using Lemmas.sort2d_dims y πx πz)
      (by rintro v hv; obtain ⟨u, -, rfl⟩ := Option.map_eq_some_iff.1 hv; simpa using Lemmas.sort2d_dims u πx πz)]
  simp only [Lemmas.core2dArgs, Option.map_map, List.map_map, Function.comp_def,
    Lemmas.takeL_takeL_argsort x hx hπx, Lemmas.takeL_takeL_argsort z hz hπz,
    Lemmas.sort2d_sort2d_argsort x z hx hz hπx hπz, Lemmas.sort2d_invertedSort_argsort x z hx hz hπx hπz]

/-- `optimize_extended_range`'s extended sort order is a permutation of the extended index set -/
theorem extendSortOrder_perm (σ : List Nat) (side k : Nat) (hσ : σ.Perm (List.range σ.length)) :
    (extendSortOrder σ side k).Perm (List.range (extendSortOrder σ side k).length) := by
  -- each block is a permutation of its own stretch of indices
  have h1 := Lemmas.perm_range_append (.refl (List.range k)) hσ
  unfold extendSortOrder
  split
  · exact Lemmas.perm_range_self_length h1
  · exact Lemmas.perm_range_self_length (Lemmas.perm_range_append hσ (.refl (List.range k)))
  · exact Lemmas.perm_range_self_length (Nat.add_comm k σ.length ▸ Lemmas.perm_range_append h1 (.refl (List.range k)))

/-- … its entries: the identity on the left added block, σ shifted by k on the original block
(`extendSortOrder_mid`). -/
theorem extendSortOrder_left (σ : List Nat) (k i : Nat) (hi : i < k) :
    (extendSortOrder σ 1 k).getD i 0 = i ∧ (extendSortOrder σ 0 k).getD i 0 = i := by
  simp only [extendSortOrder, List.append_assoc, Lemmas.getD_append, List.length_range, if_pos hi,
    Lemmas.getD_range 0 hi, and_self]

theorem extendSortOrder_mid (σ : List Nat) (k i : Nat) (hi : i < σ.length) :
    (extendSortOrder σ 1 k).getD (k + i) 0 = σ.getD i 0 + k ∧
    (extendSortOrder σ 0 k).getD (k + i) 0 = σ.getD i 0 + k ∧
    (extendSortOrder σ 2 k).getD i 0 = σ.getD i 0 := by
  have hs : (σ.map (· + k)).getD i 0 = σ.getD i 0 + k := Lemmas.getD_map_of_lt _ 0 0 hi
  simp only [extendSortOrder, List.append_assoc, Lemmas.getD_append, List.length_range, List.length_map,
    if_neg (Nat.not_lt.2 (Nat.le_add_right k i)), Nat.add_sub_cancel_left, if_pos hi, hs, and_self]

/-! ### table obligation over the regenerated method registry (Route A, `Gen/Registry`)
`run1d_equivariant` / `run2d_equivariant` un-sort EVERY per-point array the core hands back: a real method inherits them only
if every per-point entry of its parameter dictionary is declared in the wrapper's `sort_keys`. The registry is read from the
imported package on every run (closure cells of `_register.inner` + one probe call per method). -/
open PbVerif.Gen in
def rowSorted (r : MethodRow) : Bool := r.skipSorting || r.perPoint.all fun k => r.sortKeys.contains k

open PbVerif.Gen in
/-- methods with `skip_sorting` (the optimizers, which delegate to wrapped methods) are covered by the correspondence only;
`90 ≤` is a floor against an empty or truncated table (the package has 95 public methods) -/
theorem registry_perpoint_keys_sorted :
    registry.all rowSorted = true ∧ registryTranslated = true ∧ 90 ≤ registry.length := by decide +kernel

end PbVerif.C02
