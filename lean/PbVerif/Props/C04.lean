import PbVerif.Lemmas.ThreadsLazy
import PbVerif.Lemmas.ThreadsPoly
import PbVerif.Lemmas.ThreadsPoly2
/-! C04 — one fitter object may be shared by concurrent threads: protocol theorems for every number of threads and every
schedule, and the witnesses showing that the orders before the repairs (and different polynomial orders) do fail. -/
namespace PbVerif.C04
open PbVerif.Threads PbVerif.Lemmas

/-- fitter created without x, `inner` writing `_size`, `_shape`, then `x` (the repaired order): no call fails its size check -/
theorem lazy1_fixed_safe (n : Nat) (sched : List Nat) :
    ∀ pc ∈ (runSched (Lazy1.proto true) Lazy1.init (List.replicate n Lazy1.PC.start) sched).2, pc ≠ Lazy1.PC.fail :=
  lazy1_safe Lazy1.init (List.replicate n .start) (by simp [lazy1G, Lazy1.init]) (List.forall_mem_replicate.2 (.inr trivial)) sched

/-- … and created with x, in either order -/
theorem lazy1_given_safe (xLast : Bool) (n : Nat) (sched : List Nat) :
    ∀ pc ∈ (runSched (Lazy1.proto xLast) ⟨true, true, true⟩ (List.replicate n Lazy1.PC.start) sched).2, pc ≠ Lazy1.PC.fail :=
  runSched_safe (Lazy1.proto xLast) (· = ⟨true, true, true⟩) (fun _ pc => pc ≠ .fail) (fun _ _ => True) _
    (fun _ _ _ _ h => h) (lazy1_given_step xLast) (fun _ _ h => h) _ (List.replicate n .start) rfl
    (List.forall_mem_replicate.2 (.inr nofun)) sched

theorem lazy1_terminates (xLast : Bool) (s : Lazy1.Sh) (pcs : List Lazy1.PC) (sched : List Nat) (i : Nat) (hi : i < pcs.length)
    (h0 : pcs[i]? = some Lazy1.PC.start) (hc : 4 ≤ sched.count i) :
    (runSched (Lazy1.proto xLast) s pcs sched).2[i]? = some Lazy1.PC.ok ∨ (runSched (Lazy1.proto xLast) s pcs sched).2[i]? = some Lazy1.PC.fail := by
  obtain ⟨pc, h1, h2⟩ := runSched_rank (Lazy1.proto xLast) lazy1Rank (lazy1_rank_step xLast) i sched s pcs _ h0 hc
  rw [h1]
  exact (lazy1Rank_zero h2).imp (congrArg some) (congrArg some)

/-- the order before the repair (x published first) fails: thread 0 publishes x, thread 1 reads x and then the missing size -/
theorem lazy1_old_unsafe : Lazy1.PC.fail ∈ (runSched (Lazy1.proto false) Lazy1.init [.start, .start] [0, 0, 1, 1]).2 := by decide +kernel

/-- 2-D, repaired order, however the fitter was created (x and / or z given or not) -/
theorem lazy2_fixed_safe (hasX hasZ : Bool) (n : Nat) (sched : List Nat) :
    ∀ pc ∈ (runSched (Lazy2.proto true) (Lazy2.init hasX hasZ) (List.replicate n Lazy2.PC.start) sched).2, pc ≠ Lazy2.PC.fail :=
  lazy2_safe (Lazy2.init hasX hasZ) (List.replicate n .start) (by cases hasX <;> cases hasZ <;> simp [lazy2G, Lazy2.init])
    (List.forall_mem_replicate.2 (.inr trivial)) sched

/-- the 2-D order before the repair (x and z published before the shape is complete) fails too -/
theorem lazy2_old_unsafe : Lazy2.PC.fail ∈ (runSched (Lazy2.proto false) (Lazy2.init false false) [.start, .start] [0, 0, 0, 0, 1, 1, 1]).2 := by
  decide +kernel

/-- spline-basis cache: identical (num_knots, degree) in every call, any cached basis (or none) to begin with: the basis a call
builds its P-spline from is the one for its own parameters -/
theorem basis_safe (p : Nat × Nat) (s0 : Basis.Sh) (n : Nat) (sched : List Nat) :
    ∀ pc ∈ (runSched (Basis.proto p) s0 (List.replicate n Basis.PC.start) sched).2, ∀ g, pc = Basis.PC.done g → g = some p :=
  basis_inv p s0 (List.replicate n .start) (List.forall_mem_replicate.2 (.inr trivial)) sched

/-- first polynomial fit on the object (`_polynomial is None`): every interleaving gives every call its serial outcome -/
theorem poly_cold_safe (k : Nat) (cfg : List (Bool × Nat)) (sched : List Nat) :
    ∀ t ∈ (runSched Poly.proto Poly.cold (polyThreads k cfg) sched).2, t.serialOutcome :=
  PolyInv.safe_of_init k k Poly.cold Heap.Good.nil cfg sched

/-- helper left by an earlier sequential call with any order j (smaller, equal or larger than k), pseudo-inverse computed or not -/
theorem poly_warm_safe (j k : Nat) (pinvDone : Bool) (cfg : List (Bool × Nat)) (sched : List Nat) :
    ∀ t ∈ (runSched Poly.proto (Poly.warm j pinvDone) (polyThreads k cfg) sched).2, t.serialOutcome :=
  PolyInv.safe_of_init k j (Poly.warm j pinvDone) (PolyInv.G_warm j k pinvDone) cfg sched

/-- `prank` gives `17 + 2·uses` at `start`: the bound has slack -/
theorem poly_terminates (s : Poly.Sh) (ts : List Poly.Thr) (sched : List Nat) (i : Nat) (t : Poly.Thr) (h0 : ts[i]? = some t)
    (hs : t.pc = .start) (hc : 20 + 2 * t.uses ≤ sched.count i) :
    ∃ t', (runSched Poly.proto s ts sched).2[i]? = some t' ∧ (t'.pc = .done ∨ t'.pc = .error) :=
  poly_rank_terminates s ts sched i t h0 (by simp only [prank, hs]; omega)

/-- first polynomial fit on the 2-D object: as `poly_cold_safe` -/
theorem poly2_cold_safe (a b : Nat) (cfg : List (Bool × Nat)) (sched : List Nat) :
    ∀ t ∈ (runSched Poly2.proto Poly2.cold (poly2Threads a b cfg) sched).2, t.serialOutcome :=
  Poly2Inv.safe_of_init a b Poly2.cold Heap.Good.nil cfg sched

/-- 2-D helper left by an earlier sequential call with any (a0, b0): the same, other orders, other max_cross, or both -/
theorem poly2_warm_safe (a0 b0 a b : Nat) (pinvDone : Bool) (cfg : List (Bool × Nat)) (sched : List Nat) :
    ∀ t ∈ (runSched Poly2.proto (Poly2.warm a0 b0 pinvDone) (poly2Threads a b cfg) sched).2, t.serialOutcome :=
  Poly2Inv.safe_of_init a b (Poly2.warm a0 b0 pinvDone) (Poly2Inv.G_warm a0 b0 a b pinvDone) cfg sched

/-- `p2rank` gives `17 + 2·uses` at `start` -/
theorem poly2_terminates (s : Poly2.Sh) (ts : List Poly2.Thr) (sched : List Nat) (i : Nat) (t : Poly2.Thr) (h0 : ts[i]? = some t)
    (hs : t.pc = .start) (hc : 20 + 2 * t.uses ≤ sched.count i) :
    ∃ t', (runSched Poly2.proto s ts sched).2[i]? = some t' ∧ (t'.pc = .done ∨ t'.pc = .error) :=
  poly2_rank_terminates s ts sched i t h0 (by simp only [p2rank, hs]; omega)

/-- the documented condition (identical non-data arguments) is necessary: with two polynomial orders on one object — which is
what adaptive_minmax did inside a single call before its repair — a call multiplies by the other call's Vandermonde -/
theorem poly_different_orders_unsafe :
    ∃ t ∈ (runSched Poly.proto (Poly.warm 2 true) [Poly.thread 2 true 1, Poly.thread 3 true 1]
      [0, 0, 0, 0, 0, 0, 0, 0, 0, 0, 1, 1, 1, 1, 1, 1, 1, 0, 0, 0]).2, ¬ t.serialOutcome := by decide +kernel

/-- the spline-basis cache must be REPLACED as a whole (what `basis_safe` models): if it were reset field by field, a second
call could pass the `same_basis` test on the new key and then use the old design matrix -/
theorem basis_inplace_unsafe :
    BasisInPlace.PC.done (9, 3) ∈ (runSched (BasisInPlace.proto (5, 3)) ⟨(9, 3), (9, 3)⟩ [.same, .same] [0, 0, 1, 1]).2 := by decide +kernel

/-- non-vacuity: the serial runs themselves end well -/
example : (runSched (Lazy1.proto true) Lazy1.init [.start, .start] [0, 0, 0, 0, 1, 1]).2 = [.ok, .ok] := by decide +kernel

example : (runSched (Lazy2.proto true) (Lazy2.init false false) [.start] (List.replicate 12 0)).2 = [.ok] := by decide +kernel

example : ((runSched Poly.proto Poly.cold [Poly.thread 3 true 2] (List.replicate 30 0)).2.map fun t => (t.pc, t.gotPinv, t.usedOk))
    = [(.done, some (some 3), true)] := by decide +kernel

example : ((runSched Poly2.proto (Poly2.warm 1 0 true) [Poly2.thread 2 1 true 1] (List.replicate 30 0)).2.map fun t => (t.pc, t.gotPinv, t.usedOk))
    = [(.done, some (some (2, 1)), true)] := by decide +kernel

end PbVerif.C04
