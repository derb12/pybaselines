import PbVerif.Lemmas.Wrapper
import PbVerif.Lemmas.Cache
import PbVerif.Gen.Wrappers
import Mathlib.Data.Rat.Cast.Order
import Mathlib.Tactic.NormNum.Basic
/-! C16 — equivalent ways of supplying the same inputs give the same result: the container- and
layout-independent part of the wrapper (the numerical core sees the canonical array in every case). -/
namespace PbVerif.C16
open PbVerif.Wrapper PbVerif.Lemmas PbVerif.Cache

theorem canon_shape_variants (n : Nat) (hn : 2 ≤ n) :
    canon1d [n] = some [n] ∧ canon1d [n, 1] = some [n] ∧ canon1d [1, n] = some [n] := canon1d_variants n

theorem canon_idem (s t : List Nat) (h : canon1d s = some t) : canon1d t = some t := by
  -- a canonical 1-D shape has one axis, and one-axis shapes pass unchanged
  rcases canon1d_eq_some.1 h with ⟨-, -, rfl⟩ | ⟨h1, rfl⟩
  · exact canon1d_eq_some.2 (.inr ⟨rfl, rfl⟩)
  · exact canon1d_eq_some.2 (.inr ⟨h1, rfl⟩)

theorem canon2d_shape_variants (m n : Nat) (hm : 2 ≤ m) (hn : 2 ≤ n) :
    canon2d [m, n] = some [m, n] ∧ canon2d [m, n, 1] = some [m, n] ∧ canon2d [1, m, n] = some [m, n] ∧
    canon2d [m, 1, n] = some [m, n] := canon2d_variants m n hm hn

theorem canon_keeps_values (twoD : Bool) (a b : Arr) (h : canonArr twoD a = some b) : b.data = a.data := by
  obtain ⟨sh, _, rfl⟩ := Option.map_eq_some_iff.1 h
  rfl

theorem dtype_rule (d i : DType) : outDtype (some d) i = d ∧ outDtype none i = i := Lemmas.dtype_rule d i

/-- an object created without x, after its first call, answers every later call like a fresh object created with the x-values
it then holds (in the model: that length, flagged unique — its reading of `linspace(-1, 1, N)`, see `linspace_strict`; the
statement itself does not mention them) -/
theorem lazy_x_eq_given_linspace (twoD : Bool) (first : Call) (history : List Op) (probe : Call) :
    (callStep (run (init twoD none) (.call first :: history)) probe).2 =
      freshOutcome (run (init twoD none) (.call first :: history)) probe :=
  callStep_refines _ probe (coherent_run _ _ (coherent_init twoD none (fun _ _ => trivial)))

theorem linspace_strict (n i j : Nat) (hij : i < j) (hj : j < n) : (linspaceX n).getD i 0 < (linspaceX n).getD j 0 := by
  have hn : n ≠ 1 := by omega
  rw [linspaceX_getD n i (by omega), linspaceX_getD n j hj, if_neg hn, if_neg hn]
  have hpos : (0 : Rat) < ((n - 1 : Nat) : Rat) := Nat.cast_pos.2 (by omega)
  exact add_lt_add_right (div_lt_div_of_pos_right (mul_lt_mul_of_pos_left (Nat.cast_lt.2 hij) two_pos) hpos) _
theorem linspace_ends (n : Nat) (hn : 2 ≤ n) : (linspaceX n).getD 0 0 = -1 ∧ (linspaceX n).getD (n - 1) 0 = 1 := by
  have hn1 : n ≠ 1 := by omega
  have hpos : ((n - 1 : Nat) : Rat) ≠ 0 := Nat.cast_ne_zero.2 (by omega)
  rw [linspaceX_getD n 0 (by omega), linspaceX_getD n (n - 1) (by omega), if_neg hn1, if_neg hn1]
  constructor
  · simp
  · rw [mul_div_assoc, div_self hpos]; norm_num

/-- the module-level function forwards the same bound arguments for every positional/keyword split -/
theorem classWrapper_forwards (params : List String) (vals : List Rat) (k : Nat) (hp : params.Nodup) (hl : vals.length ≤ params.length) (hk : k ≤ vals.length) :
    forward params (vals.take k) (((params.zip vals).drop k)) = forward params vals [] := by
  -- both calls bind `params.zip vals`
  have hk' : (vals.take k).length = k := by simp [hk]
  have h1 := bindArgs_zip params (vals.take k) (vals.drop k) hp (by omega)
  have h2 := bindArgs_zip params vals [] hp hl
  have hz : (params.zip vals).drop k = (params.drop k).zip (vals.drop k) := List.drop_zipWith
  rw [hk', ← hz, List.take_append_drop] at h1
  rw [List.zip_nil_right, List.append_nil] at h2
  rw [forward, forward, h1, h2]

theorem getMethod_case (lower : String → String) (hl : ∀ s, lower (lower s) = lower s) (reg : List String) (name : String) :
    getMethod lower reg name = getMethod lower reg (lower name) := by
  simp [getMethod, hl]
theorem getMethod_total (lower : String → String) (reg : List String) (name : String) (h : lower name ∈ reg) :
    getMethod lower reg name = some (lower name) := by
  unfold getMethod
  induction reg with
  | nil => simp at h
  | cons a r ih =>
    by_cases ha : a = lower name
    · simp [ha]
    · have : lower name ∈ r := (List.mem_cons.1 h).resolve_left (Ne.symm ha)
      simp [ha, ih this]

example : forward ["data", "lam", "p", "x_data"] [5, 7] [("x_data", 3), ("p", 1)] = some (some 3, [("data", 5), ("lam", 7), ("p", 1)]) := by decide +kernel

/-! ### table obligation over the regenerated table of module-level functions (Route A, `Gen/Wrappers`)
`classWrapper_forwards` presupposes that the function and the method name their parameters alike; that premise is read from the
imported package on every run. -/

/-- the one documented exception to the common ORDER: `interp_pts(x_data, baseline_points, …, data=None)` -/
def orderFree : List String := ["interp_pts"]

open PbVerif.Gen in
def wrapperOk (r : WrapperRow) : Bool :=
  r.hasFunction && r.hasXData && r.fnSorted == r.methSorted && (orderFree.contains r.name || r.fnParams == r.methParams) &&
  r.methParams.Nodup

open PbVerif.Gen in
/-- every public 1-D method has a module-level function taking `x_data` whose other parameters are the method's: the same names
with the same defaults, in the same order (so a positional call means the same for both); `60 ≤` is a floor against an empty or
truncated table (the package has 62 such functions) -/
theorem wrappers_match : wrappers.all wrapperOk = true ∧ wrappersTranslated = true ∧ 60 ≤ wrappers.length := by decide +kernel

end PbVerif.C16
