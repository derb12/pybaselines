import PbVerif.Lemmas.Kron
import PbVerif.Lemmas.Axes
/-! C20 — 2-D eigendecomposition and array algebra agree with the full 2-D system.  The reshapes and transposes of
`two_d/_spline_utils.py` / `two_d/_whittaker_utils.py` entry by entry against the Kronecker definitions, the eigenbasis
statements over Mathlib matrices, and the planner of `Baseline2D.individual_axes`. -/
namespace PbVerif.C20
open PbVerif.Kron PbVerif.Lemmas

/-- `_make_btwb`: the reshape/transposes of `G_r' W G_c` give `(B_r ⊗ B_c)' diag(vec W) (B_r ⊗ B_c)`, for all shapes -/
theorem makeBtwb_eq_kron (Br Bc W : Mat) (a b : Nat) (hr : Rect Br a) (hc : Rect Bc b) (ha : 0 < Br.length) (hb : 0 < Bc.length)
    (r c : Nat) (hr' : r < a * b) (hc' : c < a * b) :
    makeBtwb Br Bc W r c = kronBtwb Br Bc W r c := Lemmas.makeBtwb_eq_kron Br Bc W a b hr hc ha hb r c hr' hc'

/-- the right-hand side `(B_r' (W∘Y) B_c).ravel()` is `(B_r ⊗ B_c)' vec(W∘Y)` -/
theorem rhs_eq_kron (Br Bc WY : Mat) (r : Nat) : rhsCode Br Bc WY r = kronRhs Br Bc WY r := Lemmas.rhs_eq_kron Br Bc WY r

/-- `B_r C B_c'` is `(B_r ⊗ B_c) vec C` reshaped -/
theorem reconstruct_eq_kron (Br Bc : Mat) (coef : List Rat) (m n : Nat) (hb : 0 < Bc.ncols) :
    reconstruct Br Bc coef m n = kronApply Br Bc coef m n := by
  unfold reconstruct kronApply kronAt
  rw [sumL_range_mul]
  apply sumL_congr; intro i _; apply sumL_congr; intro k hk
  rw [(divmod_pair _ i k (List.mem_range.mp hk)).1, (divmod_pair _ i k (List.mem_range.mp hk)).2]
  ring

/-- the eigenvalue penalty `repeat(λ_r Λ_r, b) + tile(λ_c Λ_c, a)` has at the row-major index `(i, k)` the entry `λ_r Λ_r[i] + λ_c Λ_c[k]`,
the diagonal of `λ_r Λ_r ⊗ I + I ⊗ λ_c Λ_c` -/
theorem eig_penalty_diag (lamr lamc : Rat) (er ec : List Rat) (i k : Nat) (hi : i < er.length) (hk : k < ec.length) :
    eigPenalty lamr lamc er ec (i * ec.length + k) = lamr * er.getD i 0 + lamc * ec.getD k 0 := by
  unfold eigPenalty
  simp only []
  -- both summands are concatenations of `er.length` rows of length `ec.length`
  rw [getD_flatten _ ec.length (fun r hr => by obtain ⟨v, _, rfl⟩ := List.mem_map.mp hr; exact List.length_replicate) i k hk,
    getD_flatten _ ec.length (fun r hr => by rw [List.eq_of_mem_replicate hr, List.length_map]) i k hk,
    getD_map_of_lt _ 0 _ hi, getD_replicate, if_pos hk, getD_replicate, if_pos hi, getD_map_of_lt _ 0 _ hk]

open Matrix in
/-- the reduced solve of `WhittakerSystem2D` in a truncated eigenbasis: if `c` solves `(B'WB + L) c = B'W y` with
`L = B'PB`, then `v = B c` satisfies the Galerkin equations `B'(W (y − v) − P v) = 0` of the documented system -/
theorem truncated_is_galerkin {N K : Type} [Fintype N] [Fintype K] [DecidableEq N] [DecidableEq K]
    (B : Matrix N K ℚ) (W P : Matrix N N ℚ) (L : Matrix K K ℚ) (y : N → ℚ) (c : K → ℚ)
    (hL : Bᵀ * P * B = L) (hc : (Bᵀ * W * B + L).mulVec c = Bᵀ.mulVec (W.mulVec y)) :
    Bᵀ.mulVec (W.mulVec (y - B.mulVec c) - P.mulVec (B.mulVec c)) = 0 := Lemmas.truncated_is_galerkin B W P L y c hL hc

open Matrix in
/-- with all eigenvectors (`B B' = I`) the Galerkin equations are the full system `(W + P) v = W y` -/
theorem full_eigen_eq_direct {N : Type} [Fintype N] [DecidableEq N]
    (B : Matrix N N ℚ) (W P : Matrix N N ℚ) (y v : N → ℚ) (hB : B * Bᵀ = 1)
    (hg : Bᵀ.mulVec (W.mulVec (y - v) - P.mulVec v) = 0) :
    (W + P).mulVec v = W.mulVec y := Lemmas.full_eigen_eq_direct B W P y v hB hg

/-- non-vacuity: bases of different widths (a = 2, b = 3); entry (4, 2) computed both ways -/
example : makeBtwb [[1, 2], [3, 4]] [[1, 0, 2], [0, 1, 1]] [[1, 2], [3, 4]] 4 2 = kronBtwb [[1, 2], [3, 4]] [[1, 0, 2], [0, 1, 1]] [[1, 2], [3, 4]] 4 2
    ∧ kronBtwb [[1, 2], [3, 4]] [[1, 0, 2], [0, 1, 1]] [[1, 2], [3, 4]] 4 2 = 52 := by decide +kernel

/-! ### `Baseline2D.individual_axes`: the plan, and its meaning for an arbitrary 1-D method `fit` -/
section individual_axes
open PbVerif.Axes

/-- step i works along `axes[i]`, its 1-D fitter gets `(x, z)[axes[i]]` (the caller's vectors) and `method_kwargs[i]`
after the pairing, and its results are stored under 'rows' (axis 0) / 'columns' (axis 1).  `AxisOk`: the documented 0 / 1;
the code does not check (2 raises IndexError at `(x, z)[axis]`, negative values wrap around) -/
theorem individualAxes_plan {α : Type} (empty : α) (axes : AxesArg) (_hok : AxisOk axes) (kw : KwArg α) (ax : List Nat) (kws : List α)
    (ha : normAxes axes = .ok ax) (hk : pairKwargs empty ax.length kw = .ok kws) (i : Nat) (hi : i < ax.length) :
    ∃ steps, individualAxesPlan empty axes kw = .ok steps ∧ steps.length = ax.length ∧
      ∃ hs : i < steps.length, steps[i].axis = ax[i] ∧ steps[i].coord = coordOf ax[i] ∧ steps[i].key = keyOf ax[i] ∧
        steps[i].kw = kws[i]'(by rw [pairKwargs_length empty _ kw kws hk]; exact hi) := by
  have hl := pairKwargs_length empty _ kw kws hk
  have hlen : ((ax.zip kws).map fun p => (⟨p.1, coordOf p.1, p.2, keyOf p.1⟩ : Step α)).length = ax.length := by
    rw [List.length_map, List.length_zip, hl, Nat.min_self]
  refine ⟨_, individualAxesPlan_eq ha hk, hlen, hlen.symm ▸ hi, ?_⟩
  simp only [List.getElem_map, List.getElem_zip, and_self]

/-- the `if / elif` chain on `method_kwargs`: `None` or `[]` gives `{}` for every axis, one dict (bare or in a sequence)
is used for every axis, a longer sequence goes by position and must have one dict per axis, else ValueError -/
theorem individualAxes_kwargs_pairing {α : Type} (empty : α) (num : Nat) :
    pairKwargs empty num .none = .ok (List.replicate num empty) ∧
    (∀ d, pairKwargs empty num (.dict d) = .ok (List.replicate num d)) ∧
    pairKwargs empty num (.seq []) = .ok (List.replicate num empty) ∧
    (∀ d, pairKwargs empty num (.seq [d]) = .ok (List.replicate num d)) ∧
    (∀ l : List α, 2 ≤ l.length → l.length = num → pairKwargs empty num (.seq l) = .ok l) ∧
    (∀ l : List α, 2 ≤ l.length → l.length ≠ num → pairKwargs empty num (.seq l) = .error .valueError) := by
  refine ⟨rfl, fun _ => rfl, rfl, fun _ => rfl, fun l h2 hn => ?_, fun l h2 hn => ?_⟩
  · rw [pairKwargs_seq _ _ _ h2, if_neg (Decidable.not_not.mpr hn)]
  · rw [pairKwargs_seq _ _ _ h2, if_pos hn]

example : AxisOk (.two 1 0) ∧ AxisOk (.one 1) := by simp [AxisOk]

theorem individualAxes_errors {α : Type} (empty : α) (a : Nat) (kw : KwArg α) (d0 d1 : α) :
    individualAxesPlan empty (.two a a) kw = .error .valueError ∧
    individualAxesPlan empty (.one a) (.seq [d0, d1]) = .error .valueError :=
  ⟨by rw [individualAxesPlan, normAxes, if_pos rfl], rfl⟩

theorem individualAxes_shape {α : Type} (fit : Fit1 α) (hf : LenPres1 fit) (empty : α) (x z : List Rat) (data : Axes.Mat) (m n : Nat)
    (hD : RectMN data m n) (hm : 0 < m) (hn : 0 < n) (axes : AxesArg) (_hok : AxisOk axes) (kw : KwArg α) (out : Axes.Mat × List (String × Axes.Mat))
    (h : individualAxes fit empty x z data axes kw = .ok out) :
    RectMN out.1 m n ∧ ∀ kp ∈ out.2, RectMN kp.2 m n := by
  unfold individualAxes at h
  split at h
  · cases h
  · cases h
    exact runSteps_shape fit x z hf hD hm hn _

/-- `axes=a` (one axis) uses only that axis' coordinates: the other vector may be anything -/
theorem individualAxes_one_axis_coords {α : Type} (fit : Fit1 α) (empty : α) (x z x' z' : List Rat) (data : Axes.Mat) (a : Nat) (_ha : a ≤ 1)
    (kw : KwArg α) (h : if a = 0 then x = x' else z = z') :
    individualAxes fit empty x z data (.one a) kw = individualAxes fit empty x' z' data (.one a) kw := by
  unfold individualAxes
  cases hpl : individualAxesPlan empty (.one a) kw with
  | error e => rfl
  | ok steps =>
    obtain ⟨ax, kws, hax, -, rfl⟩ := individualAxesPlan_ok hpl
    cases hax
    show Except.ok _ = Except.ok _
    congr 1
    -- every step of the plan works along `a`, so `pick` takes the vector the two calls share
    refine foldl_congr_mem _ _ _ (fun acc st hst => ?_) _
    obtain ⟨pr, hpr, rfl⟩ := List.mem_map.mp hst
    obtain rfl : pr.1 = a := by simpa using (List.of_mem_zip hpr).1
    have : pick x z (coordOf pr.1) = pick x' z' (coordOf pr.1) := by
      unfold coordOf
      split at h <;> simp [*, pick]
    simp only [stepRun, this]

/-- `axes=(a, b)` with kwargs `[k0, k1]` is `axes=a` with `k0` on the data, then `axes=b` with `k1` on the data minus the
first baseline: the baselines add up, the partial baselines are those of the two calls -/
theorem individualAxes_two_is_one_then_one {α : Type} (fit : Fit1 α) (hf : LenPres1 fit) (empty : α) (x z : List Rat) (data : Axes.Mat)
    (m n : Nat) (hD : RectMN data m n) (hm : 0 < m) (hn : 0 < n) (a b : Nat) (_ha : a ≤ 1) (_hb : b ≤ 1) (hab : a ≠ b) (k0 k1 : α) :
    ∃ (B0 B1 : Axes.Mat) (P0 P1 : List (String × Axes.Mat)),
      individualAxes fit empty x z data (.one a) (.dict k0) = .ok (B0, P0) ∧
      individualAxes fit empty x z (sub data B0) (.one b) (.dict k1) = .ok (B1, P1) ∧
      individualAxes fit empty x z data (.two a b) (.seq [k0, k1]) = .ok (add B0 B1, P0 ++ P1) := by
  refine ⟨?_, ?_, ?_, ?_, ?one_a, ?one_b, ?two⟩
  case one_a => rw [individualAxes, individualAxesPlan_eq (axes := .one a) (ax := [a]) rfl (kws := [k0]) rfl]
  case one_b => rw [individualAxes, individualAxesPlan_eq (axes := .one b) (ax := [b]) rfl (kws := [k1]) rfl]
  case two =>
    rw [individualAxes, individualAxesPlan_eq (axes := .two a b) (ax := [a, b]) (if_neg hab) (kws := [k0, k1]) rfl]
    exact congrArg Except.ok (runSteps_two fit x z hf hD hm hn _ _)

/-- giving x, z and the data in another order (rows in the order `p`, columns in the order `s`) re-orders the baseline and
every partial baseline the same way, if the 1-D method commutes with re-ordering its coordinates and data (C02) -/
theorem individualAxes_reorder {α : Type} (fit : Fit1 α) (hf : LenPres1 fit) (empty : α) (x z : List Rat) (data : Axes.Mat) (m n : Nat)
    (hD : RectMN data m n) (hm : 0 < m) (hn : 0 < n) (p s : List Nat) (hp : p.length = m) (hs : s.length = n)
    (hpm : ∀ i ∈ p, i < m) (hsn : ∀ j ∈ s, j < n) (hx : Equivariant fit p x) (hz : Equivariant fit s z)
    (axes : AxesArg) (_hok : AxisOk axes) (kw : KwArg α) :
    individualAxes fit empty (take1 p x) (take1 s z) (take2 p s data) axes kw =
      (individualAxes fit empty x z data axes kw).map (reorder p s) := by
  unfold individualAxes
  cases hpl : individualAxesPlan empty axes kw with
  | error e => rfl
  | ok steps =>
    show Except.ok _ = Except.ok _
    rw [runSteps, runSteps, runSteps_init (hp ▸ hs ▸ rect_take2 p s data) hm, runSteps_init hD hm,
      ← foldl_stepRun_take2 fit x z hf hD hm hn hp hs hpm hsn hx hz steps (fun st hst => (individualAxesPlan_coords hpl st hst).1)
        ⟨rect_zeros m n, fun _ h => absurd h List.not_mem_nil⟩,
      reorder, take2_zeros, hp, hs]
    rfl

/-- a 1-D "method" for the examples: baseline_i = c_i · v_i + k -/
def exFit : Fit1 Rat := fun c k v => List.zipWith (fun ci vi => ci * vi + k) c v

/-- non-vacuity: axes (1, 0) — columns first, each axis with its own coordinate vector and dict -/
example : (individualAxesPlan "{}" (.two 1 0) (.seq ["A", "B"])).toOption.map (·.map fun s => (s.axis, s.coord, s.kw, s.key)) =
      some [(1, .z, "A", "columns"), (0, .x, "B", "rows")] ∧
    (individualAxesPlan "{}" (.one 1) .none).toOption.map (·.map fun s => (s.axis, s.coord, s.kw, s.key)) = some [(1, .z, "{}", "columns")] := by
  decide +kernel
example : individualAxes exFit 0 [1, 2] [1, 0, 2] [[1, 2, 3], [4, 5, 6]] (.two 0 1) (.seq [1, 0]) =
    .ok ([[1, 3, 2], [4, 11, -1]], [("rows", [[2, 3, 4], [9, 11, 13]]), ("columns", [[-1, 0, -2], [-5, 0, -14]])]) := by
  decide +kernel

/-- non-vacuity: `individualAxes_reorder` with rows taken in the order [1, 0], columns in the order [2, 0, 1] -/
example : individualAxes exFit 0 [2, 1] [2, 1, 0] (take2 [1, 0] [2, 0, 1] [[1, 2, 3], [4, 5, 6]]) (.two 0 1) (.seq [1, 0]) =
    .ok (reorder [1, 0] [2, 0, 1] ([[1, 3, 2], [4, 11, -1]], [("rows", [[2, 3, 4], [9, 11, 13]]), ("columns", [[-1, 0, -2], [-5, 0, -14]])])) := by
  decide +kernel
example : LenPres1 (fun (_ : List Rat) (k : Rat) v => v.map (· + k)) ∧ RectMN [[1, 2, 3], [4, 5, 6]] 2 3 ∧
    Equivariant (fun (_ : List Rat) (k : Rat) v => v.map (· + k)) [1, 0] [1, 2] := by
  refine ⟨fun _ _ v => List.length_map _, ⟨rfl, by decide⟩, fun k v hv => ?_⟩
  match v, hv with
  | [a, b], _ => rfl

end individual_axes

end PbVerif.C20
