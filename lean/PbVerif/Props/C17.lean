import PbVerif.Lemmas.Optim
import PbVerif.Lemmas.Collab
/-! C17 — optimizer methods are the documented composition of the underlying method: the index
plumbing (the wrapped method itself is a black box; the composition is re-executed on the real code by
the correspondence). -/
namespace PbVerif.C17
open PbVerif.Optim PbVerif.Lemmas

/-- cutting back after padding returns the user's per-point array, for every side and width (`cutBack` mirrors the
Python slice for `k > 0`, the only widths the code reaches) -/
theorem pad_cut_id (side : Side) (k : Nat) (v : List Rat) : cutBack side k (padSide side k v) = v :=
  cutBack_append side k _ v _ (by rw [apply_ite List.length, List.length_nil, List.length_replicate])
    (by rw [apply_ite List.length, List.length_nil, List.length_replicate])

/-- the method parameters cut back from an extended fit of length `N + added` have the data's length -/
theorem cut_length (side : Side) (k : Nat) (v : List Rat) (n : Nat)
    (h : v.length = n + (if side = .both then 2 * k else k)) : (cutBack side k v).length = n := by
  rw [cutBack, List.length_drop, List.length_take_of_le (by split; exact Nat.le_refl _; exact Nat.sub_le _ _), h]
  cases side
  · exact Nat.add_sub_cancel _ _
  · exact Nat.add_sub_cancel _ _
  · show n + 2 * k - k - k = n
    rw [Nat.two_mul, ← Nat.add_assoc, Nat.add_sub_cancel, Nat.add_sub_cancel]

/-- the rolled slice of an extended fit `left ++ mid ++ right` is the fit on the added right block followed by the
added left block, the order in which `known_background` is assembled -/
theorem roll_slice_picks_added_both (k : Nat) (l m r : List Rat) (hl : l.length = k) (hr : r.length = k) (hk : 0 < k) :
    addedPart .both k (l ++ m ++ r) = r ++ l := addedPart_append .both k l m r hl hr

theorem roll_slice_picks_added_right (k : Nat) (m r : List Rat) (hr : r.length = k) (hk : 0 < k) :
    addedPart .right k (m ++ r) = r :=
  (addedPart_append .right k [] m r rfl hr).trans (List.append_nil r)

theorem roll_slice_picks_added_left (k : Nat) (l m : List Rat) (hl : l.length = k) (hk : 0 < k) :
    addedPart .left k (l ++ m) = l :=
  (congrArg (addedPart .left k) (List.append_nil (l ++ m)).symm).trans (addedPart_append .left k l m [] hl rfl)

/-- the reported optimal parameter is a FIRST minimiser of the reported errors -/
theorem argmin_first (l : List Rat) (h : l ≠ []) :
    argminFirst l < l.length ∧ (∀ j, j < l.length → l.getD (argminFirst l) 0 ≤ l.getD j 0) ∧
    (∀ j, j < argminFirst l → l.getD (argminFirst l) 0 < l.getD j 0) :=
  argminFirst_fold l _ (fun _ _ => rfl) (fun _ _ _ => rfl) (List.length_pos_iff.mpr h)

/-- `custom_bc` with one full region and unit sampling averages every point with itself alone and keeps no other point:
`x_fit = x`, `y_fit = y` -/
theorem customBc_identity_plan (n : Nat) (hn : 2 ≤ n) :
    (customBcPlan n [(0, n, 1)]).sections = (List.range n).map (fun i => (i, i + 1)) ∧
    (customBcPlan n [(0, n, 1)]).mask = List.replicate n false := Lemmas.customBc_identity_plan n hn

/-- the constrained weights differ from the weights exactly on the first `c0` and last `c1` points -/
theorem minmax_constraints (w : List Rat) (c0 c1 : Nat) (w0 w1 : Rat) (i : Nat) (hi : i < w.length) :
    (constrainedWeights w c0 c1 w0 w1).getD i 0 =
      if w.length - c1 ≤ i then w1 else if i < c0 then w0 else w.getD i 0 :=
  getD_range_map _ 0 hi

/-- the result of `adaptive_minmax` dominates each of the four fits and is attained by one of them -/
theorem minmax_is_max (bs : List (List Rat)) (n : Nat) (h : ∀ b ∈ bs, b.length = n) (hne : bs ≠ [])
    (i : Nat) (hi : i < n) :
    (∀ b ∈ bs, b.getD i 0 ≤ (pointwiseMax bs).getD i 0) ∧ ∃ b ∈ bs, (pointwiseMax bs).getD i 0 = b.getD i 0 := by
  cases bs with
  | nil => exact absurd rfl hne
  | cons b0 rest =>
    have hm := (List.max?_eq_some_iff (xs := (b0 :: rest).map (·.getD i 0))).mp List.max?_cons'
    rw [← getD_foldMax rest n (fun b hb => h b (List.mem_cons_of_mem _ hb)) i hi b0 (h b0 List.mem_cons_self)] at hm
    exact ⟨fun b hb => hm.2 _ (List.mem_map_of_mem hb), (List.mem_map.mp hm.1).imp fun b hb => ⟨hb.1, hb.2.symm⟩⟩
theorem minmax_four_product (o0 o1 : Nat) : fourFits o0 o1 = [(o0, false), (o0, true), (o1, false), (o1, true)] := rfl

/-- non-vacuity: the right block comes first; of two equal minima the first is chosen -/
example : addedPart .both 2 [1, 2, 3, 4, 5, 6, 7, 8] = [7, 8, 1, 2] ∧ argminFirst [3, 1, 4, 1, 5] = 1 := by decide +kernel

/-! ### `collab_pls` (1-D and 2-D `_Optimizers.collab_pls`, `_setup_optimizer`): the calls made to the wrapped method -/
section collab
open PbVerif.Collab

/-- every call of the wrapped method (first pass and final fits, either `average_dataset`, 1-D and 2-D) receives under
every key not overridden for the method family what the user's `method_kwargs` holds there (nothing, if nothing) -/
theorem collab_kwargs (twoD : Bool) (method : String) (k : Nat) (avg : Bool) (user : Kw) (c : Call)
    (hc : c ∈ (collabPlan twoD method k avg user).calls) (key : String) (hk : key ∉ overridden (family twoD method)) :
    kwGet c.kw key = kwGet user key := by
  rcases List.mem_append.mp hc with hc | hc
  · rw [firstPass_kw k avg user c hc]
  · obtain ⟨i, _, rfl⟩ := List.mem_map.mp hc
    exact finalKw_other _ k avg user key hk

/-- `average_dataset=True`: k+1 calls, the mean data set with the user's dictionary untouched (also its `weights`), then
the k data sets in order; calls 1..k are reported, with the weights / alpha returned by call 0 -/
theorem collab_calls_average_dataset (twoD : Bool) (method : String) (k : Nat) (user : Kw) :
    (collabPlan twoD method k true user).calls =
      ⟨.mean, user⟩ :: (List.range k).map (fun i => ⟨.entry i, finalKw (family twoD method) k true user⟩) ∧
    (collabPlan twoD method k true user).results = (List.range k).map (· + 1) ∧
    (collabPlan twoD method k true user).avgWeights = .fitWeights 0 ∧
    (collabPlan twoD method k true user).avgAlpha = (if (family twoD method).calcAlpha then some (.fitAlpha 0) else none) :=
  ⟨rfl, rfl, rfl, rfl⟩

/-- `average_dataset=False`: 2k calls, every data set in order with the user's dictionary untouched, then again with the
final dictionary; calls k..2k-1 are reported, with the mean weights / alpha of the first k fits, rows in order 0..k-1 -/
theorem collab_calls_average_weights (twoD : Bool) (method : String) (k : Nat) (user : Kw) :
    (collabPlan twoD method k false user).calls =
      (List.range k).map (fun i => ⟨.entry i, user⟩) ++
      (List.range k).map (fun i => ⟨.entry i, finalKw (family twoD method) k false user⟩) ∧
    (collabPlan twoD method k false user).results = (List.range k).map (· + k) ∧
    (collabPlan twoD method k false user).avgWeights = .meanWeights (List.range k) ∧
    (collabPlan twoD method k false user).avgAlpha =
      (if (family twoD method).calcAlpha then some (.meanAlpha (List.range k)) else none) := by
  refine ⟨rfl, ?_, rfl, rfl⟩
  rw [collabPlan, firstPass_length]
  rfl

/-- the fit reported for data set i is made on data set i, with the reported `average_weights` as `weights` and the
reported `average_alpha` as `alpha` (aspls family; otherwise none is reported); `tol` / `tol_2` / `weights_as_mask` are
written for the families the code names -/
theorem collab_final_fit_kwargs (twoD : Bool) (method : String) (k : Nat) (avg : Bool) (user : Kw) (i : Nat) (hi : i < k) :
    ∃ c : Call, (collabPlan twoD method k avg user).calls.getD ((collabPlan twoD method k avg user).results.getD i 0) ⟨.mean, []⟩ = c ∧
      c.data = .entry i ∧
      kwGet c.kw "weights" = some (collabPlan twoD method k avg user).avgWeights ∧
      ((family twoD method).calcAlpha = true → kwGet c.kw "alpha" = (collabPlan twoD method k avg user).avgAlpha) ∧
      ((family twoD method).calcAlpha = false → (collabPlan twoD method k avg user).avgAlpha = none) ∧
      ((family twoD method).setTol = true → kwGet c.kw "tol" = some .inf) ∧
      ((family twoD method).setTol2 = true → kwGet c.kw "tol_2" = some .inf) ∧
      ((family twoD method).asMask = true → kwGet c.kw "weights_as_mask" = some .true_) := by
  obtain ⟨h1, h2⟩ := collabPlan_result_call twoD method k avg user i hi
  refine ⟨_, rfl, ?_⟩
  rw [h1, h2]
  refine ⟨rfl, finalKw_weights _ _ _ _, ?_, ?_, finalKw_tol _ _ _ _, finalKw_tol2 _ _ _ _, finalKw_mask _ _ _ _⟩
  · intro hc
    rw [finalKw_alpha _ _ _ _ hc]
    exact (if_pos hc).symm
  · intro hc
    exact if_neg (Bool.eq_false_iff.mp hc)

/-- what is raised before any fit, in the order the code checks: unknown method, then (1-D only) an `x_data`
key in `method_kwargs`, then the number of dimensions of the data -/
theorem collab_errors (twoD known : Bool) (ndim : Nat) (method : String) (k : Nat) (avg : Bool) (user : Kw) :
    collabCall twoD known ndim method k avg user =
      if known = false then .error .attributeError
      else if twoD = false ∧ (kwGet user "x_data").isSome then .error .keyError
      else if ndim ≠ (if twoD then 3 else 2) then .error .valueError
      else .ok (collabPlan twoD method k avg user) := by
  simp only [collabCall, Bool.not_eq_true', Bool.and_eq_true]

/-- meaning of the plan for ANY wrapped method `f` (stateful or not): one dictionary `kw` serves all reported fits; its
`weights` / `alpha` are what `params` reports, and every key not overridden holds the user's value.  `_hk`: the mean
over zero rows is NaN in the code and the first fit raises; `hu`: the user's dictionary holds the user's own values -/
theorem collab_reported_weights_are_used (f : Method) (twoD : Bool) (method : String) (avg : Bool) (user : Kw)
    (ds : List (List Rat)) (_hk : 0 < ds.length) (hu : UserKw user) :
    ∃ kw : List (String × Arg),
      getArg kw "weights" = some (runCollab f twoD method avg user ds).avgWeights ∧
      ((family twoD method).calcAlpha = true → getArg kw "alpha" = (runCollab f twoD method avg user ds).avgAlpha) ∧
      ((family twoD method).calcAlpha = false → (runCollab f twoD method avg user ds).avgAlpha = none) ∧
      ((family twoD method).setTol = true → getArg kw "tol" = some .inf) ∧
      ((family twoD method).setTol2 = true → getArg kw "tol_2" = some .inf) ∧
      ((family twoD method).asMask = true → getArg kw "weights_as_mask" = some .true_) ∧
      (∀ key, key ∉ overridden (family twoD method) → getArg kw key = getArg (resolveKw [] user) key) ∧
      ∀ i, i < ds.length →
        (runCollab f twoD method avg user ds).trace.getD ((if avg then 1 else ds.length) + i) default =
          ⟨ds.getD i [], kw, f ((if avg then 1 else ds.length) + i) (ds.getD i []) kw⟩ ∧
        (runCollab f twoD method avg user ds).baselines.getD i [] =
          (f ((if avg then 1 else ds.length) + i) (ds.getD i []) kw).baseline := by
  rw [runCollab_closed f twoD method avg user ds hu]
  refine ⟨resolveKw (firstRecs f avg user ds) (finalKw (family twoD method) ds.length avg user),
    getArg_resolveKw_some _ (finalKw_weights _ _ _ _),
    fun hc => (getArg_resolveKw_some _ (finalKw_alpha _ _ _ _ hc)).trans (if_pos hc).symm,
    fun hc => if_neg (Bool.eq_false_iff.mp hc),
    fun hc => getArg_resolveKw_some _ (finalKw_tol _ _ _ _ hc), fun hc => getArg_resolveKw_some _ (finalKw_tol2 _ _ _ _ hc),
    fun hc => getArg_resolveKw_some _ (finalKw_mask _ _ _ _ hc), fun key hk => ?_, fun i hi => ⟨?_, ?_⟩⟩
  · rw [getArg_resolveKw, getArg_resolveKw, finalKw_other _ _ _ _ _ hk]
    exact resolve_user_indep user hu key _ _
  · show List.getD (_ ++ _) _ _ = _
    rw [getD_append, firstRecs_length, if_neg (Nat.not_lt.mpr (Nat.le_add_right _ _)), Nat.add_sub_cancel_left, finalRecs,
      getD_range_map _ _ hi]
  · show List.getD (List.map _ _) i [] = _
    rw [finalRecs, List.map_map, getD_range_map _ _ hi]
    rfl

/-- a data set with a single entry: both settings of `average_dataset` make the same two fits with the same arguments
and report the same baselines, weights and alpha (the mean of one row is the row) -/
theorem collab_single_dataset (f : Method) (twoD : Bool) (method : String) (user : Kw) (d : List Rat) (hu : UserKw user) :
    runCollab f twoD method true user [d] = runCollab f twoD method false user [d] := by
  have hfin := fun h => finalKw_single (family twoD method) user h
  rw [runCollab_closed f twoD method true user [d] hu, runCollab_closed f twoD method false user [d] hu, finalRecs, finalRecs,
    firstRecs_single, List.length_singleton, (hfin _).1, (hfin _).2.1, (hfin _).2.2]
  rfl

example : family false "fabc" = ⟨false, false, false, true⟩ ∧ family false "pspline_brpls" = ⟨false, true, true, false⟩ ∧
    family false "aspls" = ⟨true, true, false, false⟩ ∧ family false "mpls" = ⟨false, false, false, false⟩ ∧
    family true "mpls" = ⟨false, true, false, false⟩ := by decide +kernel

/-- non-vacuity: the four calls of `average_dataset=False` for two data sets; `weights` is replaced in the final fits only -/
example : (collabPlan false "aspls" 2 false [("lam", .user "a"), ("weights", .user "w")]).calls =
    [⟨.entry 0, [("lam", .user "a"), ("weights", .user "w")]⟩, ⟨.entry 1, [("lam", .user "a"), ("weights", .user "w")]⟩,
     ⟨.entry 0, [("lam", .user "a"), ("weights", .meanWeights [0, 1]), ("alpha", .meanAlpha [0, 1]), ("tol", .inf)]⟩,
     ⟨.entry 1, [("lam", .user "a"), ("weights", .meanWeights [0, 1]), ("alpha", .meanAlpha [0, 1]), ("tol", .inf)]⟩] ∧
    "lam" ∉ overridden (family false "aspls") ∧ UserKw [("lam", .user "a"), ("weights", .user "w")] := by
  refine ⟨by decide +kernel, by decide +kernel, ?_⟩
  intro p hp
  simp only [List.mem_cons, List.not_mem_nil, or_false] at hp
  rcases hp with rfl | rfl <;> exact ⟨_, rfl⟩

/-- non-vacuity: the `x_data` key is rejected in 1-D only -/
example : collabCall false true 2 "asls" 1 true [("x_data", .user "x")] = .error .keyError ∧
    (collabCall true true 3 "asls" 1 true [("x_data", .user "x")]).isOk = true := by decide
example : meanRows [[1, 2], [3, 6], [5, 1]] = [3, 3] ∧
    (runCollab (fun n d _ => ⟨d, d.map (· + n), d⟩) false "asls" false [] [[1, 2], [3, 6]]).avgWeights = .arr [2 + 1/2, 4 + 1/2] := by
  decide +kernel

end collab

end PbVerif.C17
