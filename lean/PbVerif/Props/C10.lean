import PbVerif.Lemmas.Backend
import PbVerif.Lemmas.PSpline
import PbVerif.Lemmas.BandMul
/-! C10 — answers do not depend on the linear-algebra back end: the part that is logic (layout selection, solver routing, the
matrix each solver reads from the array it is handed) is proved for all 4 × 2 configurations and every size; the numerical
agreement of the solvers and of the compiled / uncompiled kernels is the correspondence (worker processes with the optional
packages genuinely unimportable). -/
namespace PbVerif.C10
open PbVerif.Banded PbVerif.Whittaker PbVerif.Backend PbVerif.Lemmas

/-- `PenalizedSystem.solve` calls pentapy exactly when it is importable, `banded_solver` is below 3 (1 or 2 of the values the setter admits) and `diff_order = 2`; the
variant passed on is the solver number -/
theorem route_pentapy_iff (n : Nat) (hasPentapy : Bool) (solver d : Nat) (al : Bool) (rev : Option Bool) (v : Nat) :
    route (setup n hasPentapy solver d al rev) solver = .pentapy v ↔ (hasPentapy = true ∧ solver < 3 ∧ d = 2 ∧ v = pentapyVariant solver) := by
  rw [route_eq_pentapy, setup_usingPentapy_iff, and_assoc, and_assoc]

/-- … and `solveh_banded` exactly when the method allows lower storage, `banded_solver < 4` and pentapy is not taken;
`solve_banded` gets the rest -/
theorem route_solveh_iff (n : Nat) (hasPentapy : Bool) (solver d : Nat) (al : Bool) (rev : Option Bool) :
    route (setup n hasPentapy solver d al rev) solver = .solveh ↔ (al = true ∧ solver < 4 ∧ ¬ (hasPentapy = true ∧ solver < 3 ∧ d = 2)) := by
  rw [route_eq_solveh, ← setup_usingPentapy_iff n hasPentapy solver d al rev, (Lemmas.setup_flags n hasPentapy solver d al rev).2.1]
  simp only [Bool.and_eq_true, Bool.not_eq_true', decide_eq_true_eq, Bool.not_eq_true]
  exact ⟨fun ⟨h, ⟨a, b⟩, _⟩ => ⟨a, b, h⟩, fun ⟨a, b, h⟩ => ⟨h, ⟨a, b⟩, h⟩⟩

/-- the layout flags `_setup_whittaker` leaves on the system -/
theorem setup_flags (n : Nat) (hasPentapy : Bool) (solver d : Nat) (al : Bool) (rev : Option Bool) :
    let s := setup n hasPentapy solver d al rev
    s.usingPentapy = (decide (solver < 3) && hasPentapy && decide (d = 2)) ∧
    s.lower = (al && decide (solver < 4) && !s.usingPentapy) ∧
    s.reversed = (match rev with | some b => b | none => s.usingPentapy) ∧ s.diffOrder = d :=
  Lemmas.setup_flags n hasPentapy solver d al rev

/-- upside down, a LAPACK full-band array is pentapy's row-wise storage of the transpose: why the symmetric penalty is handed to
pentapy reversed -/
theorem rowwise_is_reversed_transpose (ab : List (List Rat)) (u i j : Nat) (h : ab.length = 2 * u + 1) :
    denRowwise ab.reverse u i j = denFull ab u j i := denRowwise_reverse ab u i j h

/-- for every `banded_solver` value, with or without pentapy, the array each Whittaker method hands to the solver it is routed to
stores the documented matrix in that solver's layout -/
theorem backend_independent (kind : Kind) (solver : Nat) (hs : 1 ≤ solver ∧ solver ≤ 4) (hasPentapy : Bool) (n d : Nat) (lam p1 : Rat)
    (w alpha : List Rat) (hw : w.length = n) (ha : alpha.length = n) (hd : 1 ≤ d) (i j : Nat) (hi : i < n) (hj : j < n) :
    denRoute (route (setup n hasPentapy solver d (methodFlags kind).1 (methodFlags kind).2) solver)
      (asmOf kind n d lam p1 w alpha (setup n hasPentapy solver d (methodFlags kind).1 (methodFlags kind).2)) d i j
      = docOf kind n d lam p1 w alpha i j :=
  Lemmas.backend_independent kind solver hs hasPentapy n d lam p1 w alpha hw ha hd i j hi hj

/-- numba present or absent: the compiled scatter loop and the explicit sparse product assemble the same `B'WB + λD'D` (C07) -/
theorem btb_paths_agree (deg nb d : Nat) (lam : Rat) (rows : List BSpline.Row) (ys ws : List Rat) (h : RowsWf deg nb rows)
    (hy : ys.length = rows.length) (hw : ws.length = rows.length) (i j : Nat) (hi : i < nb) (hj : j < nb) :
    denLower (PSpline.asmPspline deg nb d lam rows ys ws).1 i j = PSpline.btwbAt deg rows ws i j + lam * dtdQ nb d i j := by
  rw [Lemmas.pspline_asm_den deg nb d lam rows ys ws h hy hw i j hi hj, PSpline.docPspline, Lemmas.btbSpec_dense]

/-- the banded `beads` implementation (numba present) forms its matrices with `_banded_dot_banded`; the sparse implementation
(numba absent) with sparse matrix products: the band product IS the matrix product, for all band widths and sizes -/
theorem banded_product (a b : BandMul.Tbl) (al au bl bu n : Nat) (ha : BandShape a al au n) (hb : BandShape b bl bu n)
    (i j : Nat) (hi : i < n) (hj : j < n) :
    BandMul.den (BandMul.bandedDotBanded a b al au bl bu n) (al + bl) (au + bu) n i j = BandMul.prodAt a b al au bl bu n i j := by
  rw [BandMul.den]
  by_cases hg : j ≤ i + (au + bu) ∧ i ≤ j + (al + bl)
  · rw [if_pos ⟨hi, hj, hg.1, hg.2⟩]
    exact bandMul_den a b al au bl bu _ n _ _ i j hi hj (Nat.min_le_left _ _) (by omega) hg.1 hg.2
  · -- outside the band of the product no `k` lies in both factor bands
    rw [if_neg (fun h => hg ⟨h.2.2.1, h.2.2.2⟩), BandMul.prodAt, Whittaker.sumL_eq_sum]
    simp only [BandMul.den, ite_zero_mul_ite_zero]
    refine (List.sum_eq_zero (List.forall_mem_map.2 fun k _ => if_neg ?_)).symm
    omega
theorem banded_product_shape (a b : BandMul.Tbl) (al au bl bu n : Nat) :
    BandShape (BandMul.bandedDotBanded a b al au bl bu n) (al + bl) (au + bu) n := by
  have h := shape_bandMul a b al au bl bu (au + bu) n (al + bl + au + bu + 1) (al + bl)
  exact ⟨by rw [BandMul.bandedDotBanded, h.1]; omega, h.length_of_mem⟩

example : BandMul.bandedDotBanded [[0,1,2,3,4],[5,6,7,8,9],[1,1,1,1,0]] [[0,2,2,2,2],[3,3,3,3,3],[4,4,4,4,0],[5,5,5,0,0]] 1 1 2 1 5 =
    [[0, 0, 2, 4, 6], [0, 13, 18, 23, 28], [19, 28, 35, 42, 29], [37, 46, 55, 39, 0], [39, 44, 49, 0, 0], [5, 5, 0, 0, 0]] := by decide +kernel

/-- non-vacuity: every `banded_solver`, with and without pentapy, `diff_order` 2 and 3, lower storage allowed and forbidden -/
example : route (setup 7 true 1 2 true none) 1 = .pentapy 1 ∧ route (setup 7 true 2 2 true none) 2 = .pentapy 2 ∧
    route (setup 7 true 3 2 true none) 3 = .solveh ∧ route (setup 7 true 4 2 true none) 4 = .solveBanded ∧
    route (setup 7 false 1 2 true none) 1 = .solveh ∧ route (setup 7 true 1 3 true none) 1 = .solveh ∧
    route (setup 7 true 1 2 false (some true)) 1 = .pentapy 1 ∧ route (setup 7 false 2 2 false (some true)) 2 = .solveBanded := by decide +kernel

end PbVerif.C10
