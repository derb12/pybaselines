import PbVerif.Lemmas.Validate
/-! C15 — invalid inputs are rejected with ValueError/TypeError, never silently used.
Theorems about the decision functions of the checkers (model of `_validation.py`); which parameter of
which method is bound to which checker is decided by the correspondence over all methods. -/
namespace PbVerif.C15
open PbVerif.Validate PbVerif.Lemmas

/-- an accepted half window is a positive integer equal to what the caller passed — for one value and
for the pair of the 2-D / per-side path alike -/
theorem halfWindow_ok_dom (v : Val) (twoD : Bool) (es : List El) (sc : Bool)
    (h : checkHalfWindow v false twoD = .ok es sc) :
    ∀ e ∈ es, ∃ q : Rat, e = .fin q ∧ 0 < q ∧ q.den = 1 ∧ (.num q) ∈ origEls v := Lemmas.halfWindow_ok_dom v twoD es sc h
theorem halfWindow_rejects (q : Rat) (h : q ≤ 0 ∨ q.den ≠ 1) (twoD : Bool) :
    (checkHalfWindow (.sc (.num q)) false twoD).rejected = true :=
  rejected_of_not_ok fun _ _ hok => by
    obtain ⟨_, ⟨rfl⟩, hpos, hden⟩ := checkHalfWindow_ok_input hok _ List.mem_cons_self
    exact h.elim (Rat.not_le.mpr hpos) (absurd hden)

theorem halfWindow_rejects_in_pair (a b : Rat) (h : a ≤ 0 ∨ a.den ≠ 1 ∨ b ≤ 0 ∨ b.den ≠ 1) :
    (checkHalfWindow (.arr [.num a, .num b]) false true).rejected = true :=
  rejected_of_not_ok fun _ _ hok => by
    obtain ⟨_, ⟨rfl⟩, ha, ha'⟩ := checkHalfWindow_ok_input hok (.num a) List.mem_cons_self
    obtain ⟨_, ⟨rfl⟩, hb, hb'⟩ := checkHalfWindow_ok_input hok (.num b) (List.mem_cons_of_mem _ List.mem_cons_self)
    rcases h with h | h | h | h
    · exact Rat.not_le.mpr ha h
    · exact h ha'
    · exact Rat.not_le.mpr hb h
    · exact h hb'

theorem lam_ok_dom (v : Val) (twoD : Bool) (es : List El) (sc : Bool) (h : checkLam v false twoD = .ok es sc) :
    ∀ e ∈ es, e.leZero = false := Lemmas.lam_ok_dom v twoD es sc h
theorem lam_rejects_nonpos (q : Rat) (hq : q ≤ 0) (twoD : Bool) : (checkLam (.sc (.num q)) false twoD).rejected = true :=
  rejected_of_not_ok fun _ _ hok => by
    -- `num q` converts to `fin q`, on which the sign test did not fire
    obtain ⟨_, ⟨rfl⟩, hs⟩ := (checkScalarVariable_ok_input hok).2 _ List.mem_cons_self
    exact of_decide_eq_false hs hq
theorem lam_rejects_nonpos_in_pair (a b : Rat) (h : a ≤ 0 ∨ b ≤ 0) : (checkLam (.arr [.num a, .num b]) false true).rejected = true :=
  rejected_of_not_ok fun _ _ hok => by
    obtain ⟨_, ⟨rfl⟩, ha⟩ := (checkScalarVariable_ok_input hok).2 (.num a) List.mem_cons_self
    obtain ⟨_, ⟨rfl⟩, hb⟩ := (checkScalarVariable_ok_input hok).2 (.num b) (List.mem_cons_of_mem _ List.mem_cons_self)
    exact h.elim (of_decide_eq_false ha) (of_decide_eq_false hb)

theorem scalar_rejects_sequence (l : List Sc) (hl : 2 ≤ l.length) (az dt : Bool) :
    (checkScalarVariable (.arr l) az false dt).rejected = true :=
  rejected_of_not_ok fun _ _ hok =>
    (checkScalarVariable_ok_input hok).1.elim (Nat.ne_of_gt hl) (Nat.ne_of_gt hl)
theorem pair_rejects_wrong_length (l : List Sc) (hl : l.length ≠ 1 ∧ l.length ≠ 2) (az dt : Bool) :
    (checkScalarVariable (.arr l) az true dt).rejected = true :=
  rejected_of_not_ok fun _ _ hok => (checkScalarVariable_ok_input hok).1.elim hl.1 hl.2

/-- integer-typed parameters (poly_order, num_knots, spline_degree, diff_order): negative values are rejected,
with `allow_zero = false` zero as well -/
theorem intVariable_rejects (q : Rat) (az : Bool) (h : truncQ q < 0 ∨ (az = false ∧ truncQ q ≤ 0)) (twoD : Bool) :
    (checkScalarVariable (.sc (.num q)) az twoD true).rejected = true :=
  rejected_of_not_ok fun _ _ hok => by
    obtain ⟨_, ⟨rfl⟩, hs⟩ := (checkScalarVariable_ok_input hok).2 _ List.mem_cons_self
    cases az
    · exact of_decide_eq_false hs (h.elim Rat.le_of_lt (·.2))
    · exact of_decide_eq_false hs (h.resolve_right (by simp))

theorem nonfinite_any_pos (pre post : List El) (e : El) (he : ∀ q, e ≠ .fin q) (s : List Nat) (e1 e2 td : Bool) :
    anyNonFinite (pre ++ e :: post) = true ∧
    checkArray s (anyNonFinite (pre ++ e :: post)) true e1 e2 td = .valueError := Lemmas.nonfinite_any_pos pre post e he s e1 e2 td

theorem len_mismatch_rejected (n m : Nat) (h : n ≠ m) (nf cf : Bool) :
    checkSized [n] nf cf m = .valueError ∧ checkSized [n, 1] nf cf m = .valueError ∧ checkSized [1, n] nf cf m = .valueError :=
  Lemmas.len_mismatch_rejected n m h nf cf
theorem len_match_accepted (n : Nat) (hn : 2 ≤ n) :
    checkSized [n] false true n = .ok [n] ∧ checkSized [n, 1] false true n = .ok [n] ∧ checkSized [1, n] false true n = .ok [n] := by
  simp [checkSized, checkArray, checkArrayShape]

theorem solver_setter_rejects (isBool : Bool) (v : Rat) :
    solverAccepted isBool v = true ↔ isBool = false ∧ (v = 1 ∨ v = 2 ∨ v = 3 ∨ v = 4) := by
  simp [solverAccepted, or_assoc]

theorem open_interval_guard (q : Rat) : inOpen01 q = true ↔ 0 < q ∧ q < 1 := by simp [inOpen01]
theorem closed_interval_guard (q : Rat) : inClosed01 q = true ↔ 0 ≤ q ∧ q ≤ 1 := by simp [inClosed01]

example : checkHalfWindow (.sc (.num (5/2))) false true = .typeError ∧ checkHalfWindow (.arr [.num 2, .num 3]) false true = .ok [.fin 2, .fin 3] false
    ∧ checkLam (.sc (.num 0)) false false = .valueError := by decide +kernel

end PbVerif.C15
