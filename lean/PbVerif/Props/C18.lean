import PbVerif.Lemmas.Pad2d
/-! C18 — padding and kernel helpers preserve the data and its length.  The 1-D `pad_edges` (mode 'extrapolate'),
`padded_convolve`, kernel normalisation and `optimize_window`; then the 2-D `_extrapolate2d` / `pad_edges2d`. -/
namespace PbVerif.C18
open PbVerif.Pad PbVerif.Lemmas

/-- exactly `pad_length` extra points on both sides, interior unchanged ('extrapolate' mode) -/
theorem pad_len (ys : List Rat) (pad wl wr : Nat) : (padEdges ys pad wl wr).length = ys.length + 2 * pad :=
  padEdges_length ys pad wl wr
theorem pad_interior (ys : List Rat) (pad wl wr i : Nat) (hi : i < ys.length) :
    (padEdges ys pad wl wr).getD (pad + i) 0 = ys.getD i 0 := padEdges_mid ys pad wl wr i hi

/-- window 1 = the edge value -/
theorem pad_window_one (ys : List Rat) (pad k : Nat) (hk : k < pad) (hn : 1 ≤ ys.length) :
    (padEdges ys pad 1 1).getD k 0 = ys.getD 0 0 ∧
    (padEdges ys pad 1 1).getD (pad + ys.length + k) 0 = ys.getD (ys.length - 1) 0 :=
  ⟨by rw [padEdges_left _ _ _ _ _ hk, sideVal_one], by rw [padEdges_right _ _ _ _ _ hk, sideVal_one]⟩

/-- with two points on the axis the truncated windows of the 2-D code give `pad_edges(row, pc, 'extrapolate', (wl, wr))`
itself -/
theorem pad_min_window (ys : List Rat) (pad wl wr : Nat) (hn : 2 ≤ ys.length) :
    padEdges ys pad (min wl ys.length) (min wr ys.length) = padEdges ys pad wl wr := by
  -- the 1-D rule reads a window only through `take`/`drop` and the test `= 1`
  have ht : ys.take (min wl ys.length) = ys.take wl := by
    rw [List.take_eq_take_iff, Nat.min_assoc, Nat.min_self]
  have hd : ys.length - min wr ys.length = ys.length - wr := by omega
  have c1 : (min wl ys.length = 1) = (wl = 1) := by apply propext; omega
  have c2 : (min wr ys.length = 1) = (wr = 1) := by apply propext; omega
  unfold padEdges getEdges
  simp only [ht, hd, c1, c2]

theorem clampIdx_id (pad n wl wr k : Nat) (hn : 2 ≤ n) (hwl : 2 ≤ wl) (hwr : 2 ≤ wr) : clampIdx pad n wl wr k = k := by
  have h1 : min wl n ≠ 1 := by omega
  have h2 : min wr n ≠ 1 := by omega
  unfold clampIdx
  rw [if_neg h1, if_neg h2, ite_self, ite_self]

theorem clampIdx_one (pad n wl wr k : Nat) (hn : 1 ≤ n) (hl : min wl n = 1) (hr : min wr n = 1) :
    clampIdx pad n wl wr k = max pad (min k (pad + n - 1)) := by
  unfold clampIdx
  rw [if_pos hl, if_pos hr]
  split
  · next h => rw [Nat.max_eq_left (Nat.le_trans (Nat.min_le_left _ _) (Nat.le_of_lt h))]
  · split
    · rw [Nat.min_eq_right (by omega), Nat.max_eq_right (by omega)]
    · rw [Nat.min_eq_left (by omega), Nat.max_eq_right (by omega)]

/-- exactly linear data is continued exactly -/
theorem extrap_linear_exact (a b : Rat) (n pad wl wr : Nat) (hn : 2 ≤ n) (hwl : 2 ≤ wl) (hwr : 2 ≤ wr) :
    padEdges ((List.range n).map fun (i : Nat) => a + b * (((pad + i : Nat) : Int) : Rat)) pad wl wr =
      (List.range (n + 2 * pad)).map fun (k : Nat) => a + b * (((k : Nat) : Int) : Rat) := by
  -- the case `n, wl, wr ≥ 2` of `ext1_linear`, where truncating the windows and `clampIdx` do nothing
  have h := pad_min_window ((List.range n).map fun (i : Nat) => a + b * (((pad + i : Nat) : Int) : Rat)) pad wl wr
    (by rw [List.length_map, List.length_range]; exact hn)
  rw [List.length_map, List.length_range] at h
  rw [← h, padEdges_eq_ext1]
  apply List.map_congr_left
  intro k hk
  rw [ext1_linear n pad wl wr (Nat.le_of_succ_le hn) (Nat.le_of_succ_le hwl) (Nat.le_of_succ_le hwr) _ a b k (List.mem_range.mp hk)
    (fun i _ => by rw [Int.cast_natCast]), clampIdx_id pad n wl wr k hn hwl hwr, Int.cast_natCast]

/-- the convolution drops the padding again (with `pad_len`: `padded_convolve` returns the data's length) … -/
theorem paddedConvolve_len (padded kernel : List Rat) (p : Nat) :
    (paddedConvolveCore padded kernel p).length = padded.length - 2 * p := by
  unfold paddedConvolveCore
  rw [List.length_map, List.length_range]
/-- … and leaves constant data unchanged for any normalised kernel no longer than the data, whenever the padding
continues the constant: the padded array is taken to be constant -/
theorem paddedConvolve_const (c : Rat) (n : Nat) (kernel : List Rat) (hk : 1 ≤ kernel.length) (hkn : kernel.length ≤ n)
    (hsum : sumL kernel = 1) (i : Nat) (hi : i < n) :
    (paddedConvolveCore (List.replicate (n + 2 * convPadding n kernel.length) c) kernel (convPadding n kernel.length)).getD i 0 = c :=
  Lemmas.paddedConvolve_const c n kernel hk hkn hsum i hi

/-- the pad length `⌈min(N, K)/2⌉` of `padded_convolve` is at least 1, so `convolution[padding:-padding]` is never the
empty `[0:-0]` -/
theorem convPadding_pos (n k : Nat) (hn : 1 ≤ n) (hk : 1 ≤ k) : 1 ≤ convPadding n k := by
  unfold convPadding ceilHalf
  omega

/-- `gaussian_kernel` and `_mollifier_kernel` return `kernel / kernel.sum()`: sum one, still non-negative and symmetric -/
theorem kernel_norm (l : List Rat) (h : sumL l ≠ 0) : sumL (normalize l) = 1 := by
  unfold normalize
  simp only [div_eq_mul_inv]
  rw [sumL_map_mul_right _ (fun x => x) l, List.map_id']
  exact mul_inv_cancel₀ h
theorem kernel_nonneg (l : List Rat) (h : ∀ v ∈ l, 0 ≤ v) : ∀ v ∈ normalize l, 0 ≤ v := by
  intro v hv
  obtain ⟨x, hx, rfl⟩ := List.mem_map.mp hv
  exact div_nonneg (h x hx) (sumL_nonneg l h)
theorem kernel_sym (l : List Rat) (h : l.reverse = l) : (normalize l).reverse = normalize l := by
  unfold normalize
  rw [← List.map_reverse, h]

/-- `optimize_window` returns an integer of at least 1, whatever the data make the tests do -/
theorem optimizeWindow_ge_one (hit : Nat → Bool) (inc maxHits minHw maxHw : Nat) :
    1 ≤ optimizeWindow hit inc maxHits minHw maxHw := Lemmas.optimizeWindow_ge_one hit inc maxHits minHw maxHw

example : padEdges [3, 5, 7] 2 3 2 = [-1, 1, 3, 5, 7, 9, 11] := by decide +kernel
example : paddedConvolveCore (List.replicate 9 4) [1/4, 1/4, 1/4, 1/4] 2 = [4, 4, 4, 4, 4] := by decide +kernel

/-! ### 2-D: `utils.pad_edges2d(…, mode='extrapolate')` / `utils._extrapolate2d`

`y` is an `M × N` matrix (`hM`, `hrect`); `pr`/`pc` are the pad lengths along the rows axis (top and bottom) / the
columns axis (left and right), `wt wb wl wr` the four windows.  The code refuses a pad length of 0
(`NotImplementedError`), hence `hpr`, `hpc`. -/

theorem pad2d_shape (y : List (List Rat)) (M N pr pc wt wb wl wr : Nat) (hM : y.length = M)
    (hrect : ∀ row ∈ y, row.length = N) (hM1 : 1 ≤ M) (hN1 : 1 ≤ N) (hpr : 1 ≤ pr) (hpc : 1 ≤ pc) :
    (extrapolate2d y pr pc wt wb wl wr).length = M + 2 * pr ∧
      ∀ row ∈ extrapolate2d y pr pc wt wb wl wr, row.length = N + 2 * pc := by
  rw [extrapolate2d_rect y M N pr pc wt wb wl wr hM hrect hM1 hN1]
  exact ⟨tab_length _ _ _, tab_row_length _ _ _⟩

theorem pad2d_interior (y : List (List Rat)) (M N pr pc wt wb wl wr : Nat) (hM : y.length = M)
    (hrect : ∀ row ∈ y, row.length = N) (hM1 : 1 ≤ M) (hN1 : 1 ≤ N) (hpr : 1 ≤ pr) (hpc : 1 ≤ pc)
    (i j : Nat) (hi : i < M) (hj : j < N) :
    ent (extrapolate2d y pr pc wt wb wl wr) (pr + i) (pc + j) = ent y i j := by
  rw [extrapolate2d_rect y M N pr pc wt wb wl wr hM hrect hM1 hN1, ent_tab _ _ _ _ _ ((padded_lt pr M).2.1 i hi) ((padded_lt pc N).2.1 j hj),
    ext1_mid _ _ _ _ _ _ hj, ext1_mid _ _ _ _ _ _ hi]

/-- the rows `pr … pr+M-1` of the result (left strip, interior, right strip) are the 1-D `padEdges` of the rows of the
data, with the windows truncated to the row length … -/
theorem pad2d_rows_are_1d (y : List (List Rat)) (M N pr pc wt wb wl wr : Nat) (hM : y.length = M)
    (hrect : ∀ row ∈ y, row.length = N) (hM1 : 1 ≤ M) (hN1 : 1 ≤ N) (hpr : 1 ≤ pr) (hpc : 1 ≤ pc)
    (i : Nat) (hi : i < M) :
    (extrapolate2d y pr pc wt wb wl wr).getD (pr + i) [] = padEdges (y.getD i []) pc (min wl N) (min wr N) := by
  obtain ⟨f, rfl, _⟩ := exists_tab y M N hM hrect
  rw [extrapolate2d_tab _ _ _ _ _ _ _ _ _ hM1 hN1, tab_getD _ _ _ _ ((padded_lt pr M).2.1 i hi), tab_getD _ _ _ _ hi,
    padEdges_eq_ext1]
  simp only [ext1_mid _ _ _ _ _ _ hi]

/-- … and the columns `pc … pc+N-1` (top strip, interior, bottom strip) are the 1-D `padEdges` of the columns -/
theorem pad2d_cols_are_1d (y : List (List Rat)) (M N pr pc wt wb wl wr : Nat) (hM : y.length = M)
    (hrect : ∀ row ∈ y, row.length = N) (hM1 : 1 ≤ M) (hN1 : 1 ≤ N) (hpr : 1 ≤ pr) (hpc : 1 ≤ pc)
    (j : Nat) (hj : j < N) :
    colOf (extrapolate2d y pr pc wt wb wl wr) (pc + j) = padEdges (colOf y j) pr (min wt M) (min wb M) := by
  obtain ⟨f, rfl, _⟩ := exists_tab y M N hM hrect
  rw [extrapolate2d_tab _ _ _ _ _ _ _ _ _ hM1 hN1, colOf_tab _ _ _ _ ((padded_lt pc N).2.1 j hj), colOf_tab _ _ _ _ hj,
    padEdges_eq_ext1]
  simp only [ext1_mid _ _ _ _ _ _ hj]

/-- exactly planar data are continued exactly, the four strips and the four corners, for all sizes and windows ≥ 2
(also windows longer than the data) -/
theorem extrap2d_planar_exact (a b c : Rat) (M N pr pc wt wb wl wr : Nat) (hM : 2 ≤ M) (hN : 2 ≤ N)
    (hpr : 1 ≤ pr) (hpc : 1 ≤ pc) (hwt : 2 ≤ wt) (hwb : 2 ≤ wb) (hwl : 2 ≤ wl) (hwr : 2 ≤ wr) :
    extrapolate2d ((List.range M).map fun (i : Nat) => (List.range N).map fun (j : Nat) => a + b * (i : Rat) + c * (j : Rat))
        pr pc wt wb wl wr =
      (List.range (M + 2 * pr)).map fun (k : Nat) => (List.range (N + 2 * pc)).map fun (l : Nat) =>
        a + b * ((k : Rat) - (pr : Rat)) + c * ((l : Rat) - (pc : Rat)) := by
  -- the case `M, N, windows ≥ 2` of `extrapolate2d_planar_clamped`, in data coordinates
  refine (extrapolate2d_planar_clamped (a - b * (pr : Rat) - c * (pc : Rat)) b c M N pr pc wt wb wl wr (Nat.le_of_succ_le hM)
    (Nat.le_of_succ_le hN) (Nat.le_of_succ_le hwt) (Nat.le_of_succ_le hwb) (Nat.le_of_succ_le hwl) (Nat.le_of_succ_le hwr) _
    fun i j _ _ => by rw [Nat.cast_add, Nat.cast_add]; ring).trans (tab_congr _ _ _ _ fun k l _ _ => ?_)
  rw [clampIdx_id pr M wt wb k hM hwt hwb, clampIdx_id pc N wl wr l hN hwl hwr]
  ring

/-- planar data under every combination of windows and sizes ≥ 1, in the coordinates of the padded array (the data sit
at rows `pr …`, columns `pc …`): on a side whose effective window `min w n` is one point the nearest edge value is
repeated (`clampIdx`), elsewhere the plane is continued, corners included -/
theorem extrap2d_planar_clamped (a b c : Rat) (M N pr pc wt wb wl wr : Nat) (hM : 1 ≤ M) (hN : 1 ≤ N)
    (hpr : 1 ≤ pr) (hpc : 1 ≤ pc) (hwt : 1 ≤ wt) (hwb : 1 ≤ wb) (hwl : 1 ≤ wl) (hwr : 1 ≤ wr) :
    extrapolate2d ((List.range M).map fun i => (List.range N).map fun j =>
        a + b * (((pr + i : Nat) : Int) : Rat) + c * (((pc + j : Nat) : Int) : Rat)) pr pc wt wb wl wr =
      planarClamped a b c M N pr pc wt wb wl wr :=
  (extrapolate2d_planar_clamped a b c M N pr pc wt wb wl wr hM hN hwt hwb hwl hwr _ fun i j _ _ => by
    rw [Int.cast_natCast, Int.cast_natCast]).trans
    (tab_congr _ _ _ _ fun k l _ _ => by rw [Int.cast_natCast, Int.cast_natCast])

/-- window 1 (the case repaired by /repo commit eac5f8d), arbitrary data: a side whose effective window is one point
(window 1, or an axis of length 1) repeats the nearest edge row / column in its strip, whatever the other three are … -/
theorem extrap2d_window_one_sides (y : List (List Rat)) (M N pr pc wt wb wl wr : Nat) (hM : y.length = M)
    (hrect : ∀ row ∈ y, row.length = N) (hM1 : 1 ≤ M) (hN1 : 1 ≤ N) :
    (min wt M = 1 → ∀ k j, k < pr → j < N → ent (extrapolate2d y pr pc wt wb wl wr) k (pc + j) = ent y 0 j) ∧
    (min wb M = 1 → ∀ k j, k < pr → j < N →
      ent (extrapolate2d y pr pc wt wb wl wr) (pr + M + k) (pc + j) = ent y (M - 1) j) ∧
    (min wl N = 1 → ∀ i l, i < M → l < pc → ent (extrapolate2d y pr pc wt wb wl wr) (pr + i) l = ent y i 0) ∧
    (min wr N = 1 → ∀ i l, i < M → l < pc →
      ent (extrapolate2d y pr pc wt wb wl wr) (pr + i) (pc + N + l) = ent y i (N - 1)) := by
  rw [extrapolate2d_rect y M N pr pc wt wb wl wr hM hrect hM1 hN1]
  obtain ⟨rL, rM, rR⟩ := padded_lt pr M
  obtain ⟨cL, cM, cR⟩ := padded_lt pc N
  refine ⟨fun h k j hk hj => ?_, fun h k j hk hj => ?_, fun h i l hi hl => ?_, fun h i l hi hl => ?_⟩
  · rw [ent_tab _ _ _ _ _ (rL k hk) (cM j hj), ext1_mid _ _ _ _ _ _ hj, ext1_left _ _ _ _ _ _ hM1 hk, h, sideVal_one]
  · rw [ent_tab _ _ _ _ _ (rR k hk) (cM j hj), ext1_mid _ _ _ _ _ _ hj, ext1_right _ _ _ _ _ _ hM1 hk, h,
      sideVal_one]
  · rw [ent_tab _ _ _ _ _ (rM i hi) (cL l hl), ext1_left _ _ _ _ _ _ hN1 hl, h, sideVal_one, ext1_mid _ _ _ _ _ _ hi]
  · rw [ent_tab _ _ _ _ _ (rM i hi) (cR l hl), ext1_right _ _ _ _ _ _ hN1 hl, h, sideVal_one,
      ext1_mid _ _ _ _ _ _ hi]

/-- … and when all four are one point the whole result, corners included, is `np.pad(y, …, 'edge')`: the data at the
nearest row and column -/
theorem extrap2d_window_one (y : List (List Rat)) (M N pr pc wt wb wl wr : Nat) (hM : y.length = M)
    (hrect : ∀ row ∈ y, row.length = N) (hM1 : 1 ≤ M) (hN1 : 1 ≤ N) (hpr : 1 ≤ pr) (hpc : 1 ≤ pc)
    (ht : min wt M = 1) (hb : min wb M = 1) (hl : min wl N = 1) (hr : min wr N = 1) :
    extrapolate2d y pr pc wt wb wl wr =
      (List.range (M + 2 * pr)).map fun k => (List.range (N + 2 * pc)).map fun l =>
        ent y (max pr (min k (pr + M - 1)) - pr) (max pc (min l (pc + N - 1)) - pc) := by
  rw [extrapolate2d_rect y M N pr pc wt wb wl wr hM hrect hM1 hN1]
  refine tab_congr _ _ _ _ fun k l hk hl' => ?_
  rw [ext1_one N pc wl wr _ hN1 hl hr l hl', ext1_one M pr wt wb _ hM1 ht hb k hk, clampIdx_one pr M wt wb k hM1 ht hb,
    clampIdx_one pc N wl wr l hN1 hl hr]

/-- whenever `_get_row_col_values` resolves `pad_length` and the windows to positive numbers the result is `_extrapolate2d`
with the first row value and the first column value of the padding: a four-valued `pad_length` is accepted and its
second and fourth entries are ignored (DESIGN.md section 6, observations) -/
theorem pad2d_args_ok (y : List (List Rat)) (pad : List Int) (win : Option (List Int))
    (pt pb pl pr wt wb wl wr : Nat) (hp : rowColValues pad = some ((pt : Int), (pb : Int), (pl : Int), (pr : Int)))
    (hw : windows2d ((pt : Int), (pb : Int), (pl : Int), (pr : Int)) win =
      some ((wt : Int), (wb : Int), (wl : Int), (wr : Int)))
    (h1 : 1 ≤ pt) (h2 : 1 ≤ pb) (h3 : 1 ≤ pl) (h4 : 1 ≤ pr) (h5 : 1 ≤ wt) (h6 : 1 ≤ wb) (h7 : 1 ≤ wl) (h8 : 1 ≤ wr) :
    padEdges2dExtrap y pad win = .ok (extrapolate2d y pt pl wt wb wl wr) := by
  have c1 : ¬ ((pt : Int) = 0 ∨ (pb : Int) = 0 ∨ (pl : Int) = 0 ∨ (pr : Int) = 0) := by omega
  have c2 : ¬ ((pt : Int) < 0 ∨ (pb : Int) < 0 ∨ (pl : Int) < 0 ∨ (pr : Int) < 0) := by omega
  have c3 : ¬ ((wt : Int) ≤ 0 ∨ (wb : Int) ≤ 0 ∨ (wl : Int) ≤ 0 ∨ (wr : Int) ≤ 0) := by omega
  unfold padEdges2dExtrap
  simp only [hp, c1, c2, if_false, hw, c3, Int.toNat_natCast]

/-- scalar and pair-valued `pad_length` with the default windows: exactly `p` rows / `q` columns per side -/
theorem pad2d_args_pair (y : List (List Rat)) (p q : Nat) (hp : 1 ≤ p) (hq : 1 ≤ q) :
    padEdges2dExtrap y [(p : Int), (q : Int)] none = .ok (extrapolate2d y p q p p q q) ∧
    padEdges2dExtrap y [(p : Int)] none = .ok (extrapolate2d y p p p p p p) :=
  ⟨pad2d_args_ok y _ none p p q q p p q q rfl rfl hp hp hq hq hp hp hq hq,
   pad2d_args_ok y _ none p p p p p p p p rfl rfl hp hp hp hp hp hp hp hp⟩

/-- a pad length of 0 on any side is refused (`NotImplementedError`), before anything else is looked at -/
theorem pad2d_args_zero (y : List (List Rat)) (pad : List Int) (win : Option (List Int))
    (pt pb pl pr : Int) (hp : rowColValues pad = some (pt, pb, pl, pr)) (h0 : pt = 0 ∨ pb = 0 ∨ pl = 0 ∨ pr = 0) :
    padEdges2dExtrap y pad win = .notImplemented := by
  unfold padEdges2dExtrap
  simp only [hp, h0, if_true]

example : extrapolate2d [[0, 1, 2], [10, 11, 12]] 1 2 2 2 2 3 =
    [[-12, -11, -10, -9, -8, -7, -6], [-2, -1, 0, 1, 2, 3, 4], [8, 9, 10, 11, 12, 13, 14], [18, 19, 20, 21, 22, 23, 24]] := by
  decide +kernel
example : extrapolate2d [[1, 2], [3, 5]] 1 1 1 1 1 1 = [[1, 1, 2, 2], [1, 1, 2, 2], [3, 3, 5, 5], [3, 3, 5, 5]] := by decide +kernel
example : extrapolate2d [[1, 2], [3, 5]] 1 1 2 2 2 2 = [[-1, -1, -1, -1], [0, 1, 2, 3], [1, 3, 5, 7], [2, 5, 8, 11]] := by decide +kernel

/-- a single row: the column direction has one point, so it is repeated whatever `wt`, `wb` say -/
example : extrapolate2d [[1, 2, 4]] 2 1 5 5 2 1 =
    [[0, 1, 2, 4, 4], [0, 1, 2, 4, 4], [0, 1, 2, 4, 4], [0, 1, 2, 4, 4], [0, 1, 2, 4, 4]] := by decide +kernel
example : clampIdx 2 3 1 4 0 = 2 ∧ clampIdx 2 3 1 4 6 = 6 ∧ clampIdx 2 1 7 7 4 = 2 := by decide
example : padEdges2dExtrap [[1, 2], [3, 5]] [1, 0] none = .notImplemented := by decide +kernel
example : padEdges2dExtrap [[1, 2], [3, 5]] [1, -1] none = .valueError := by decide +kernel
example : padEdges2dExtrap [[1, 2], [3, 5]] [1, 2, 1, 9] (some [2]) =
    .ok [[-1, -1, -1, -1], [0, 1, 2, 3], [1, 3, 5, 7], [2, 5, 8, 11]] := by decide +kernel

/-- the two corner estimates are the same number: padding the rows and padding the columns commute (`Lemmas/Pad2dLin`),
so the mean `_extrapolate2d` takes in the corners is the mean of a value with itself; all data, sizes, windows -/
theorem extrap2d_corner_orders_agree (y : List (List Rat)) (M N pr pc wt wb wl wr : Nat) (hM : y.length = M)
    (hrect : ∀ row ∈ y, row.length = N) (hM1 : 1 ≤ M) (hN1 : 1 ≤ N) :
    padCols (padRows y pc wl wr) pr wt wb = padRows (padCols y pr wt wb) pc wl wr ∧
    extrapolate2d y pr pc wt wb wl wr = padRows (padCols y pr wt wb) pc wl wr := by
  obtain ⟨f, rfl, _⟩ := exists_tab y M N hM hrect
  rw [extrapolate2d_tab _ _ _ _ _ _ _ _ _ hM1 hN1, padCols_padRows_tab _ _ _ _ _ _ _ _ _ hM1 hN1,
    padRows_padCols_tab _ _ _ _ _ _ _ _ _ hM1 hN1]
  exact ⟨rfl, rfl⟩

/-- so every row of the result, the top and bottom strips with the corners included, is the 1-D `padEdges` of the
corresponding row of the column-padded data: a corner is the 1-D extension of a strip -/
theorem pad2d_all_rows_are_1d (y : List (List Rat)) (M N pr pc wt wb wl wr : Nat) (hM : y.length = M)
    (hrect : ∀ row ∈ y, row.length = N) (hM1 : 1 ≤ M) (hN1 : 1 ≤ N) (k : Nat) (hk : k < M + 2 * pr) :
    (extrapolate2d y pr pc wt wb wl wr).getD k [] =
      padEdges ((padCols y pr wt wb).getD k []) pc (min wl N) (min wr N) := by
  obtain ⟨f, rfl, _⟩ := exists_tab y M N hM hrect
  rw [extrapolate2d_tab _ _ _ _ _ _ _ _ _ hM1 hN1, padCols_tab _ _ _ _ _ _ hM1 hN1, tab_getD _ _ _ _ hk,
    tab_getD _ _ _ _ hk, padEdges_eq_ext1]
example : padCols (padRows [[1, 2, 4], [0, 5, 3]] 2 3 2) 1 2 1 = padRows (padCols [[1, 2, 4], [0, 5, 3]] 1 2 1) 2 3 2 ∧
    (extrapolate2d [[1, 2, 4], [0, 5, 3]] 1 2 2 1 3 2).getD 0 [] = [-5/2, -1, 2, -1, 5, 11, 17] := by decide +kernel

end PbVerif.C18
