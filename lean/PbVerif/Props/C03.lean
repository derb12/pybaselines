import PbVerif.Lemmas.Cache
/-! C03 — a reused fitter object gives the same answers as a fresh one: the coherence invariant of the cache state machine, the
refinement of the fresh-object specification for every history, and the `polyvander` column-prefix law the model rests on. -/
namespace PbVerif.C03
open PbVerif.Cache PbVerif.Lemmas

theorem coherent_init (twoD : Bool) (given : Option (Nat × Bool)) : Coherent (init twoD given) :=
  Lemmas.coherent_init twoD given (fun _ _ => trivial)

theorem coherent_step (s : St) (o : Op) (h : Coherent s) : Coherent (step s o).1 := Lemmas.coherent_step s o h

/-- for every object (1-D or 2-D, with or without x at construction), every history of operations (fits of every kind, calls that
raise, valid and invalid solver assignments) and every probe call: the probe's outcome (returned or raised, and which cached
matrices its result is computed from) is that of the same call on a fresh object with the same x-values -/
theorem reuse_refines_fresh (twoD : Bool) (given : Option (Nat × Bool)) (history : List Op) (probe : Call) :
    (callStep (run (init twoD given) history) probe).2 = freshOutcome (run (init twoD given) history) probe :=
  callStep_refines _ probe (coherent_run _ history (coherent_init twoD given))

/-- a fresh polynomial fit uses the Vandermonde of the requested order and a pseudo-inverse computed from it -/
theorem fresh_poly_outcome (n k : Nat) (u : Bool) :
    (callStep (init false (some (n, u))) ⟨n, false, .poly k false true⟩).2 = .ok (.poly (k + 1) (some (k + 1))) := by
  rw [callStep_outcome _ _ (coherent_init _ _), xOf_init]
  simp [callSpec, bodySpec]

theorem x_fixed (s : St) (o : Op) (n : Nat) (u : Bool) (h : xOf s = some (n, u)) : xOf (step s o).1 = some (n, u) := by
  cases o with
  | call c => exact (callStep_xOf s c h).trans h
  | setSolver v isBool =>
    dsimp only [step]
    split <;> exact h

/-- `polyvander` column-prefix law: `vandermonde[:, :poly_order + 1]` (order going down) is the Vandermonde of the lower order -/
theorem vander_prefix (x : Rat) (k K : Nat) (h : k ≤ K) : (vanderRow x K).take (k + 1) = vanderRow x k := by
  rw [vanderRow_eq_map, vanderRow_eq_map, ← List.map_take, List.take_range, Nat.min_eq_left (Nat.succ_le_succ h)]

/-- non-vacuity: orders 6 → 3 → weighted 3, a call of another length (rejected), a solver change, order 1, two spline calls (the
second raises), order 4; then probe order 2: same as fresh -/
example : (callStep (run (init false (some (50, true)))
      [.call ⟨50, false, .poly 6 false true⟩, .call ⟨50, false, .poly 3 false true⟩,
       .call ⟨50, false, .poly 3 true true⟩, .call ⟨49, false, .poly 9 false true⟩, .setSolver 7 false,
       .call ⟨50, false, .poly 1 false false⟩, .call ⟨50, true, .spline 10 3 false⟩, .call ⟨50, false, .spline 4 3 true⟩, .call ⟨50, false, .poly 4 false true⟩])
      ⟨50, false, .poly 2 false true⟩).2 = .ok (.poly 3 (some 3)) := by decide +kernel

end PbVerif.C03
