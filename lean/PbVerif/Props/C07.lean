import PbVerif.Lemmas.PSpline
import PbVerif.Lemmas.Interp
import PbVerif.Lemmas.BSplineAffine
/-! C07 — penalised-spline baselines solve the documented P-spline system: the arrays `lhs`, `rhs` that `PSpline.solve_pspline` hands
to the solver store the documented matrix and right-hand side, for every P-spline method and both band layouts, and do not depend on
the magnitude of x. (The solver is certified per output by an exact backward error in the correspondence.) -/
namespace PbVerif.C07
open PbVerif.BSpline PbVerif.Whittaker PbVerif.PSpline PbVerif.Lemmas

/-- `_add_diagonals(a, b, lower_only=True)` adds the denoted matrices, whichever array has fewer rows -/
theorem addDiagonals_den (a b : List (List Rat)) (n : Nat) (ha : RowsLen a n) (hb : RowsLen b n) (i j : Nat) (hi : i < n) (hj : j < n) :
    denLower (addDiagonalsLower a b n) i j = denLower a i j + denLower b i j :=
  ((LowerBand.self (TblShape.of_length_of_mem ha)).addDiagonals (LowerBand.self (TblShape.of_length_of_mem hb))).den i j hi hj

/-- `btbSpec` read as lower storage (band `|i − j|`, column `min i j`) is the dense `(B'WB)[i,j] = Σ_k w_k B[k,i] B[k,j]` -/
theorem btb_is_dense_product (deg : Nat) (rows : List Row) (ws : List Rat) (i j : Nat) :
    btbSpec deg rows ws (max i j - min i j) (min i j) = btwbAt deg rows ws i j := btbSpec_dense deg rows ws i j

/-- the lower bands handed to the solver denote `B'WB + λ D'D`, whether the difference order is below or above the degree -/
theorem pspline_asm_den (deg nb d : Nat) (lam : Rat) (rows : List Row) (ys ws : List Rat) (h : RowsWf deg nb rows)
    (hy : ys.length = rows.length) (hw : ws.length = rows.length) (i j : Nat) (hi : i < nb) (hj : j < nb) :
    denLower (asmPspline deg nb d lam rows ys ws).1 i j = docPspline deg nb d lam rows ws i j :=
  Lemmas.pspline_asm_den deg nb d lam rows ys ws h hy hw i j hi hj

/-- … and the right-hand side is `B'Wy` -/
theorem pspline_asm_rhs (deg nb d : Nat) (lam : Rat) (rows : List Row) (ys ws : List Rat) (h : RowsWf deg nb rows)
    (hy : ys.length = rows.length) (hw : ws.length = rows.length) (c : Nat) (hc : c < nb) :
    (asmPspline deg nb d lam rows ys ws).2.getD c 0 = btySpec deg rows ys ws c := bty_eq deg nb rows ys ws h hy hw c hc

/-- the rows of `__make_design_matrix` meet the hypothesis `RowsWf` of the assembly theorems (that their values are the B-spline
basis is C12) -/
theorem basis_rows_wf (knots : List Rat) (deg : Nat) (xs : List Rat) (h : deg < knots.length - (deg + 1)) :
    RowsWf deg (knots.length - (deg + 1)) (designRows knots deg xs) ∧ (designRows knots deg xs).length = xs.length :=
  designRows_wf knots deg xs h

/-- on the `num_knots + 2·deg` knots of `_spline_knots`, `_basis_midpoints` returns one point per basis function -/
theorem basisMidpoints_length (numKnots deg : Nat) (h : 2 ≤ numKnots) :
    basisMidpointsCount (numKnots + 2 * deg) deg = numKnots + deg - 1 := basisMidpointsCount_eq numKnots deg

/-- `_basis_midpoints` on equally spaced knots; `pspline_drpls` and `pspline_aspls` interpolate their weights there -/
theorem midpoints_are_support_centres (a h : Rat) (K deg i : Nat) (hi : i + deg + 1 < K) :
    (basisMidpoints (apKnots a h K) deg).getD i 0 = ((apKnots a h K).getD i 0 + (apKnots a h K).getD (i + deg + 1) 0) / 2 := by
  obtain ⟨q, rfl | rfl⟩ := Nat.even_or_odd' deg
  · rw [getD_basisMidpoints_even _ q i (by rw [apKnots_length]; omega), apKnots_getD a h K _ (by omega), apKnots_getD a h K _ (by omega),
      apKnots_getD a h K _ (by omega), apKnots_getD a h K _ hi]
    push_cast; ring
  · rw [getD_basisMidpoints_odd _ q i (by rw [apKnots_length]; omega), apKnots_getD a h K _ (by omega), apKnots_getD a h K _ (by omega),
      apKnots_getD a h K _ hi]
    push_cast; ring

theorem midpoints_length (knots : List Rat) (deg : Nat) :
    (basisMidpoints knots deg).length = basisMidpointsCount knots.length deg := Lemmas.basisMidpoints_length knots deg

theorem interp_node (xs vs : List Rat) (hx : xs.Pairwise (· < ·)) (hl : vs.length = xs.length) (j : Nat) (hj : j < xs.length) :
    npInterp xs vs (xs.getD j 0) = vs.getD j 0 := by
  have hn : 0 < xs.length := Nat.zero_lt_of_lt hj
  -- on increasing nodes the case `npInterp` takes at `t = x_j` fixes `j`; in the inner case the weight of `v_{j+1}` is 0
  rcases npInterp_cases xs vs (xs.getD j 0) hn with ⟨h1, e⟩ | ⟨_, h1, e⟩ | ⟨r, hr, h1, h2, e⟩
  · rw [e, Nat.le_zero.1 ((pairwise_getD_le_iff xs hx hj hn).1 h1)]
  · rw [e, Nat.le_antisymm (Nat.le_sub_one_of_lt hj) ((pairwise_getD_le_iff xs hx (Nat.sub_one_lt_of_lt hj) hj).1 h1)]
  · obtain rfl : r = j := Nat.le_antisymm ((pairwise_getD_le_iff xs hx (Nat.lt_of_succ_lt hr) hj).1 h1)
      (Nat.le_of_lt_succ (lt_of_not_ge fun h => absurd h2 (not_lt.2 ((pairwise_getD_le_iff xs hx hr hj).2 h))))
    rw [e, sub_self, zero_mul, zero_div, add_zero]

/-- so `alpha_array = 1` leaves the penalty of `pspline_aspls` unscaled -/
theorem interp_const (xs : List Rat) (v t : Rat) (hx : xs.Pairwise (· < ·)) (hn : 0 < xs.length) :
    npInterp xs (List.replicate xs.length v) t = v := npInterp_const xs v t hn

/-- so `0 ≤ w ≤ 1` and `0 ≤ η ≤ 1` give `0 ≤ 1 − η w̃ ≤ 1` in `pspline_drpls` -/
theorem interp_bounds (xs vs : List Rat) (lo hi t : Rat) (hx : xs.Pairwise (· < ·)) (hl : vs.length = xs.length) (hn : 0 < xs.length)
    (hb : ∀ v ∈ vs, lo ≤ v ∧ v ≤ hi) : lo ≤ npInterp xs vs t ∧ npInterp xs vs t ≤ hi := npInterp_bounds xs vs lo hi t hl hn hb

example : basisMidpoints (apKnots 0 1 9) 3 = [2, 3, 4, 5, 6] ∧ basisMidpoints (apKnots 0 1 7) 2 = [3/2, 5/2, 7/2, 9/2] := by decide +kernel

example : (asmPspline 1 3 2 10 (designRows [-1, 0, 1, 2, 3] 1 [0, 1/2, 1]) [1, 2, 3] [1, 1, 1]).1 =
    [[45/4, 165/4, 10], [-79/4, -20, 0], [10, 0, 0]] := by decide +kernel

/-! ### full-band layout (`PSpline.lower = False`); `pspline_iasls`, `pspline_drpls`, `pspline_aspls` (`spline.py`) -/

/-- `_lower_to_full` keeps the matrix -/
theorem lowerToFull_den (ab : List (List Rat)) (R n : Nat) (h : TblShape ab R n) (hR : 1 ≤ R) (i j : Nat) (hi : i < n) (hj : j < n) :
    denFull (lowerToFullQ ab) (R - 1) i j = denLower ab i j :=
  (FullBand.ofLower (LowerBand.self h) (Nat.succ_pred_eq_of_pos hR).symm).den i j hi hj

/-- `_add_diagonals(a, b, lower_only=False)` adds the denoted matrices (odd row counts: the code raises on an odd mismatch) -/
theorem addDiagonalsFull_den (a b : List (List Rat)) (ua ub n : Nat) (ha : TblShape a (2 * ua + 1) n) (hb : TblShape b (2 * ub + 1) n) (i j : Nat) :
    denFull (addDiagonalsFull a b n) (max ua ub) i j = denFull a ua i j + denFull b ub i j := Lemmas.addDiagonalsFull_den a b ua ub n ha hb i j

/-- `_shift_rows(P[::-1] * w, u, u)` denotes `diag(w)·Pᵀ`, for every full-band table with `2u + 1` rows (padded or not) -/
theorem shiftRows_reverse_colscale_any (P : List (List Rat)) (u n : Nat) (w : List Rat) (h : TblShape P (2 * u + 1) n) (hw : w.length = n)
    (i j : Nat) (hi : i < n) (hj : j < n) :
    denFull (shiftRows (colScale P.reverse w) u u) u i j = w.getD i 0 * denFull P u j i :=
  ((FullBand.self h).shiftRevColScale hw).den i j hi hj

/-- `pspline_iasls` (lower bands, `banded_solver` 1–3): `lhs` denotes `B'W²B + λ₁ B'D₁'D₁B + λ D'D`, `D₁'D₁` on the N ≥ 2 data points -/
theorem pspline_iasls_extra (deg nb d : Nat) (lam lam1 : Rat) (rows : List Row) (ys ws : List Rat) (h : RowsWf deg nb rows)
    (hy : ys.length = rows.length) (hw : ws.length = rows.length) (hN : 2 ≤ rows.length) (i j : Nat) (hi : i < nb) (hj : j < nb) :
    denLower (asmPIasls deg nb d lam lam1 rows ys ws true).1 i j = docPIasls deg nb d lam lam1 rows ws i j :=
  (lowerBand_asmPIasls deg nb d lam lam1 rows ys ws h hy hw hN).den i j hi hj

/-- … full bands (`banded_solver = 4`); `hd` is the `ValueError` guard of `PSpline.__init__`, `hdeg` holds as `nb = num_knots + deg − 1` -/
theorem pspline_iasls_extra_full (deg nb d : Nat) (lam lam1 : Rat) (rows : List Row) (ys ws : List Rat) (h : RowsWf deg nb rows)
    (hy : ys.length = rows.length) (hw : ws.length = rows.length) (hN : 2 ≤ rows.length) (hdeg : deg < nb) (hd : d < nb)
    (i j : Nat) (hi : i < nb) (hj : j < nb) :
    denFull (asmPIasls deg nb d lam lam1 rows ys ws false).1 (nb - 1) i j = docPIasls deg nb d lam lam1 rows ws i j :=
  (fullBand_asmPIasls deg nb d lam lam1 rows ys ws h hy hw hN hdeg hd).den i j hi hj

/-- … and the right-hand side is `B'W²y + λ₁ B'D₁'D₁y` -/
theorem pspline_iasls_extra_rhs (deg nb d : Nat) (lam lam1 : Rat) (rows : List Row) (ys ws : List Rat) (lower : Bool) (h : RowsWf deg nb rows)
    (hy : ys.length = rows.length) (hw : ws.length = rows.length) (hN : 2 ≤ rows.length) (c : Nat) (hc : c < nb) :
    (asmPIasls deg nb d lam lam1 rows ys ws lower).2.getD c 0 = btySpec deg rows ys (ws.map fun v => v * v) c + lam1 * btd1yAt deg rows ys c := by
  have e : (asmPIasls deg nb d lam lam1 rows ys ws lower).2
      = List.zipWith (· + ·) (btbBty deg nb rows ys (ws.map fun v => v * v)).2 (d1Rhs deg nb lam1 rows ys) := by
    cases lower <;> rfl
  rw [e, getD_zipWith_of_length_eq _ 0 c (by rw [btbBty_rhs_length, d1Rhs, List.length_map, List.length_range]) (add_zero 0),
    bty_eq deg nb rows ys _ h hy (by rw [List.length_map, hw]) c hc]
  congr 1
  unfold d1Rhs
  rw [getD_range_map _ 0 hc, sum_mul_d1y _ _ lam1 rows.length (length_colB _ _ _) hy hN]
  rfl

/-- `pspline_drpls`: `lhs` denotes `B'WB + D₁'D₁ + λ (I − η W̃) D'D` for any vector `wt` with one entry per basis function -/
theorem pspline_drpls_asm_den (deg nb d : Nat) (lam eta : Rat) (rows : List Row) (ys ws wt : List Rat) (h : RowsWf deg nb rows)
    (hy : ys.length = rows.length) (hw : ws.length = rows.length) (hwt : wt.length = nb) (hd : 1 ≤ d)
    (i j : Nat) (hi : i < nb) (hj : j < nb) :
    denFull (asmPDrpls deg nb d lam eta rows ys ws wt).1 (d + (deg - d)) i j = docPDrpls deg nb d lam eta rows ws wt i j :=
  (fullBand_asmPDrpls deg nb d lam eta rows ys ws wt h hy hw hwt hd).den i j hi hj

/-- … in particular with `W̃ = np.interp(_basis_midpoints(knots, deg), x, w)` -/
theorem pspline_drpls_asm_den_midpoints (deg d numKnots : Nat) (lam eta : Rat) (knots xs ys ws : List Rat)
    (hk : knots.length = numKnots + 2 * deg) (h2 : 2 ≤ numKnots) (hy : ys.length = xs.length) (hw : ws.length = xs.length) (hd : 1 ≤ d)
    (i j : Nat) (hi : i < knots.length - (deg + 1)) (hj : j < knots.length - (deg + 1)) :
    denFull (asmPDrpls deg (knots.length - (deg + 1)) d lam eta (designRows knots deg xs) ys ws (interpMid knots xs ws deg)).1 (d + (deg - d)) i j
      = docPDrpls deg (knots.length - (deg + 1)) d lam eta (designRows knots deg xs) ws (interpMid knots xs ws deg) i j := by
  have hwf := designRows_wf knots deg xs (by omega)
  exact pspline_drpls_asm_den deg _ d lam eta _ ys ws _ hwf.1 (hy.trans hwf.2.symm) (hw.trans hwf.2.symm)
    (interpMid_length knots xs ws deg) hd i j hi hj

/-- `pspline_aspls`: `lhs` denotes `B'WB + λ diag(α̃) D'D` -/
theorem pspline_aspls_asm_den (deg nb d : Nat) (lam : Rat) (rows : List Row) (ys ws at_ : List Rat) (h : RowsWf deg nb rows)
    (hy : ys.length = rows.length) (hw : ws.length = rows.length) (hat : at_.length = nb)
    (i j : Nat) (hi : i < nb) (hj : j < nb) :
    denFull (asmPAspls deg nb d lam rows ys ws at_).1 (d + (deg - d)) i j = docPAspls deg nb d lam rows ws at_ i j :=
  (fullBand_asmPAspls deg nb d lam rows ys ws at_ h hy hw hat).den i j hi hj

/-- … in particular with `α̃ = np.interp(_basis_midpoints(knots, deg), x, alpha)` -/
theorem pspline_aspls_asm_den_midpoints (deg d numKnots : Nat) (lam : Rat) (knots xs ys ws alpha : List Rat)
    (hk : knots.length = numKnots + 2 * deg) (h2 : 2 ≤ numKnots) (hy : ys.length = xs.length) (hw : ws.length = xs.length)
    (i j : Nat) (hi : i < knots.length - (deg + 1)) (hj : j < knots.length - (deg + 1)) :
    denFull (asmPAspls deg (knots.length - (deg + 1)) d lam (designRows knots deg xs) ys ws (interpMid knots xs alpha deg)).1 (d + (deg - d)) i j
      = docPAspls deg (knots.length - (deg + 1)) d lam (designRows knots deg xs) ws (interpMid knots xs alpha deg) i j := by
  have hwf := designRows_wf knots deg xs (by omega)
  exact pspline_aspls_asm_den deg _ d lam _ ys ws _ hwf.1 (hy.trans hwf.2.symm) (hw.trans hwf.2.symm)
    (interpMid_length knots xs alpha deg) i j hi hj

/-- the right-hand side of both is `B'Wy` -/
theorem pspline_drpls_aspls_rhs (deg nb d : Nat) (lam eta : Rat) (rows : List Row) (ys ws wt : List Rat) (h : RowsWf deg nb rows)
    (hy : ys.length = rows.length) (hw : ws.length = rows.length) (c : Nat) (hc : c < nb) :
    (asmPDrpls deg nb d lam eta rows ys ws wt).2.getD c 0 = btySpec deg rows ys ws c ∧
    (asmPAspls deg nb d lam rows ys ws wt).2.getD c 0 = btySpec deg rows ys ws c :=
  ⟨bty_eq deg nb rows ys ws h hy hw c hc, bty_eq deg nb rows ys ws h hy hw c hc⟩

example : asmPIasls 1 3 2 10 (1/2) (designRows [-1, 0, 1, 2, 3] 1 [0, 1/2, 1]) [1, 2, 3] [1, 1/2, 1] true =
    ([[181/16, 661/16, 10], [-323/16, -20, 0], [10, 0, 0]], [3/4, 15/4, 0]) := by decide +kernel

example : (asmPIasls 1 3 2 10 (1/2) (designRows [-1, 0, 1, 2, 3] 1 [0, 1/2, 1]) [1, 2, 3] [1, 1/2, 1] false).1 =
    [[0, 0, 10], [0, -323/16, -20], [181/16, 661/16, 10], [-323/16, -20, 0], [10, 0, 0]] := by decide +kernel

example : (asmPDrpls 1 3 2 10 (1/2) (designRows [-1, 0, 1, 2, 3] 1 [0, 1/2, 1]) [1, 2, 3] [1, 1/2, 1] (interpMid [-1, 0, 1, 2, 3] [0, 1/2, 1] [1, 1/2, 1] 1)).1 =
    [[0, 0, 5], [0, -87/8, -11], [57/8, 185/8, 6], [-87/8, -11, 0], [5, 0, 0]] := by decide +kernel

example : (asmPAspls 1 3 2 10 (designRows [-1, 0, 1, 2, 3] 1 [0, 1/2, 1]) [1, 2, 3] [1, 1, 1] (interpMid [-1, 0, 1, 2, 3] [0, 1/2, 1] [1, 1/2, 1/4] 1)).1 =
    [[0, 0, 10], [0, -79/4, -5], [45/4, 45/4, 5/2], [-19/4, -5, 0], [5/2, 0, 0]] := by decide +kernel

/-! ### the P-spline system does not depend on the magnitude of the x-axis

The basis is invariant under `x ↦ a·x + b`, `a > 0` (C12 `basis_magnitude_free`), and the penalty `λ D'D` never sees x. -/

/-- `lhs`, `rhs` (lower bands) for the data `(a·x + b, y, w)` are, entry for entry, those for `(x, y, w)` -/
theorem pspline_system_magnitude_free (a b : Rat) (ha : 0 < a) (xs : List Rat) (hx : xs ≠ []) (nk deg : Nat) (hnk : 2 ≤ nk)
    (nb d : Nat) (lam : Rat) (ys ws : List Rat) :
    asmPspline deg nb d lam (pSplineBasis (xs.map (fun t => a * t + b)) nk deg) ys ws =
      asmPspline deg nb d lam (pSplineBasis xs nk deg) ys ws := by
  rw [show pSplineBasis (xs.map (fun t => a * t + b)) nk deg = pSplineBasis xs nk deg from
    Affine.pSplineBasis_aff a b ha xs hx nk deg hnk]

/-- … and so are those of `pspline_iasls`, in both band layouts -/
theorem pspline_iasls_system_magnitude_free (a b : Rat) (ha : 0 < a) (xs : List Rat) (hx : xs ≠ []) (nk deg : Nat) (hnk : 2 ≤ nk)
    (nb d : Nat) (lam lam1 : Rat) (ys ws : List Rat) (lower : Bool) :
    asmPIasls deg nb d lam lam1 (pSplineBasis (xs.map (fun t => a * t + b)) nk deg) ys ws lower =
      asmPIasls deg nb d lam lam1 (pSplineBasis xs nk deg) ys ws lower := by
  rw [show pSplineBasis (xs.map (fun t => a * t + b)) nk deg = pSplineBasis xs nk deg from
    Affine.pSplineBasis_aff a b ha xs hx nk deg hnk]

/-- … and they denote the documented system `B'WB + λ D'D`, `B'Wy` of the basis `B` of `x` (`nb = num_knots + deg − 1`) -/
theorem pspline_system_of_scaled_x (a b : Rat) (ha : 0 < a) (xs : List Rat) (hx : xs ≠ []) (nk deg : Nat) (hnk : 2 ≤ nk)
    (d : Nat) (lam : Rat) (ys ws : List Rat) (hy : ys.length = xs.length) (hw : ws.length = xs.length) :
    let sys := asmPspline deg (nk + deg - 1) d lam (pSplineBasis (xs.map (fun t => a * t + b)) nk deg) ys ws
    (∀ i j, i < nk + deg - 1 → j < nk + deg - 1 →
      denLower sys.1 i j = docPspline deg (nk + deg - 1) d lam (pSplineBasis xs nk deg) ws i j) ∧
    (∀ c, c < nk + deg - 1 → sys.2.getD c 0 = btySpec deg (pSplineBasis xs nk deg) ys ws c) := by
  intro sys
  have hl : (xKnots xs nk deg).length = nk + 2 * deg := splineKnots_length _ _ nk deg
  obtain ⟨hwf, hlen⟩ := designRows_wf (xKnots xs nk deg) deg xs (by omega)
  rw [show (xKnots xs nk deg).length - (deg + 1) = nk + deg - 1 by omega] at hwf
  rw [show sys = _ from pspline_system_magnitude_free a b ha xs hx nk deg hnk _ d lam ys ws]
  exact ⟨pspline_asm_den deg _ d lam _ ys ws hwf (hy.trans hlen.symm) (hw.trans hlen.symm),
    pspline_asm_rhs deg _ d lam _ ys ws hwf (hy.trans hlen.symm) (hw.trans hlen.symm)⟩

/-- non-vacuity: the systems for `x`, `10⁻³⁰·x` and `x + 1.7·10⁹` coincide and are not trivial -/
example :
    asmPspline 1 3 2 10 (pSplineBasis ([0, 1/4, 1/2, 7/10, 1].map (fun t => (1 / 1000000000000000000000000000000 : Rat) * t + 0)) 3 1) [1, 2, 3, 2, 1] [1, 1, 1/2, 1, 1] =
      asmPspline 1 3 2 10 (pSplineBasis [0, 1/4, 1/2, 7/10, 1] 3 1) [1, 2, 3, 2, 1] [1, 1, 1/2, 1, 1] ∧
    asmPspline 1 3 2 10 (pSplineBasis ([0, 1/4, 1/2, 7/10, 1].map (fun t => 1 * t + 1700000000)) 3 1) [1, 2, 3, 2, 1] [1, 1, 1/2, 1, 1] =
      asmPspline 1 3 2 10 (pSplineBasis [0, 1/4, 1/2, 7/10, 1] 3 1) [1, 2, 3, 2, 1] [1, 1, 1/2, 1, 1] ∧
    (asmPspline 1 3 2 10 (pSplineBasis [0, 1/4, 1/2, 7/10, 1] 3 1) [1, 2, 3, 2, 1] [1, 1, 1/2, 1, 1]).2 = [2, 37/10, 9/5] := by
  decide +kernel

end PbVerif.C07
