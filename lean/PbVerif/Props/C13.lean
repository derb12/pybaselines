import PbVerif.Lemmas.Own
import PbVerif.Gen.Inplace
/-! C13 — calls never modify the caller's arrays or dictionaries. -/
namespace PbVerif.C13
open PbVerif.Own PbVerif.Lemmas PbVerif.Gen

/-- soundness of the discipline: if every in-place write, at its moment, targets a buffer created during the call, no buffer of
the caller is ever written, whether the call returns or raises in the middle -/
theorem own_sound (s : St) (prog : List Op) (h : writesFresh s prog = true) (k : Nat) :
    versionOf (run s prog) (.user k) = versionOf s (.user k) := Lemmas.own_sound s prog h k

/-- exactly when the numerical core receives the caller's own buffer -/
theorem wrapper_alias_char (c : InCfg) (copyInput : Bool) :
    aliasesUser c copyInput = true ↔
      (c.isNdarray = true ∧ c.dtypeOk = true ∧ (c.needsRavel = true → c.ravelIsView = true) ∧ copyInput = false ∧ c.sorted = false) := by
  obtain ⟨a, b, c, d, e⟩ := c
  revert a b c d e copyInput
  decide +kernel

/-- with unsorted x, or with `copy_input=True`, nothing the core receives aliases the caller's array -/
theorem sorted_or_copy_fresh (c : InCfg) (copyInput : Bool) (h : c.sorted = true ∨ copyInput = true) :
    aliasesUser c copyInput = false := by
  refine Bool.eq_false_iff.mpr fun ha => ?_
  obtain ⟨-, -, -, hc, hs⟩ := (wrapper_alias_char c copyInput).mp ha
  rw [hc, hs] at h
  exact h.elim Bool.noConfusion Bool.noConfusion

/-- a write to the array handed to the core meets the discipline iff that array does not alias the caller's -/
theorem write_after_path (c : InCfg) (copyInput : Bool) :
    writesFresh (initSt 1) (arrayPath c copyInput ++ [.write 1]) = !aliasesUser c copyInput := by
  obtain ⟨a, b, c, d, e⟩ := c
  revert a b c d e copyInput
  decide +kernel

/-- a scanned in-place write to a target of one of the caller's kinds (data, weights, alpha, points, kwargs) is acceptable if the
target is a fresh local or comes from a `_setup_*` call that was asked to copy; targets of kind `other` (loop counters, locals
the scanner does not classify) are not constrained -/
def rowOk (r : InplaceRow) : Bool :=
  r.tkind == .other || r.origin == .fresh || r.origin == .setupCopy

/-- table obligation (re-checked against the scan of the current source on every run): every in-place write found in a
registered method whose target is of one of the caller's kinds hits a fresh buffer or a copied input -/
theorem inplace_table_fresh : inplaceTable.all rowOk = true ∧ inplaceTranslated = true := by decide +kernel

/-- non-vacuity: there are configurations in which the core works on the caller's buffer, the (N,1)-column case among them -/
example : aliasesUser ⟨true, true, false, false, false⟩ false = true ∧ aliasesUser ⟨true, true, true, true, false⟩ false = true ∧
    aliasesUser ⟨true, true, true, true, false⟩ true = false := by decide +kernel

end PbVerif.C13
