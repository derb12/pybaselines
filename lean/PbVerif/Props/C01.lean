import PbVerif.Lemmas.Wrapper
import PbVerif.Lemmas.Perm
import PbVerif.Gen.Registry
import PbVerif.Lemmas.LoopTbl
import PbVerif.Lemmas.LoopRows
import PbVerif.Lemmas.LoopNest
/-! C01 — every call returns a well-formed (baseline, params) pair or raises: shape / order / dtype
rule of the wrapper and length / stop-reason theorems of the loop skeleton. That each of the 95
numerical cores preserves the length of its input and yields finite numbers on noisy finite data is
outside the model (partial); it is evaluated on the real code by the correspondence. -/
namespace PbVerif.C01
open PbVerif.Wrapper PbVerif.Loop PbVerif.Lemmas PbVerif.Perm

/-- shape, 1-D: (N,), (N,1), (1,N) come back (N,) -/
theorem wrapper_shape (n : Nat) (hn : 2 ≤ n) :
    resultShape false [n] = some [n] ∧ resultShape false [n, 1] = some [n] ∧ resultShape false [1, n] = some [n] := by
  simp only [resultShape_false]
  exact canon1d_variants n

/-- 2-D: (M,N), (M,N,1), (1,M,N), (M,1,N) come back (M,N) -/
theorem wrapper_shape2d (m n : Nat) (hm : 2 ≤ m) (hn : 2 ≤ n) :
    resultShape true [m, n] = some [m, n] ∧ resultShape true [m, n, 1] = some [m, n] ∧ resultShape true [1, m, n] = some [m, n] ∧
    resultShape true [m, 1, n] = some [m, n] := by
  simp only [resultShape_true]
  exact canon2d_variants m n hm hn

/-- dtype: `output_dtype` if given, otherwise the data's dtype -/
theorem wrapper_dtype (d i : DType) : outDtype (some d) i = d ∧ outDtype none i = i := Lemmas.dtype_rule d i

/-- order: whatever the core returns in sorted order is handed back in the caller's order
(un-sorting after sorting is the identity on a length-N array) -/
theorem wrapper_order {α} (a : List α) (dflt : α) (σ : List Nat) (hσ : σ.Perm (List.range σ.length)) (ha : a.length = σ.length) :
    takeL (takeL a dflt σ) dflt (invertedSort σ) = a := take_take_inverted a dflt σ hσ ha

/-- the convergence record has at most `budget` (= max_iter + 1) entries … -/
theorem loop_hist_len (budget : Nat) (tol : Rat) (d : Nat → Rat) (exit : Nat → Bool) :
    (history budget tol d exit).length ≤ budget := by
  rw [history, List.length_map, List.length_range]
  obtain ⟨n, -, ⟨e, hn, -⟩ | ⟨e, hn, -⟩ | ⟨e, hn⟩⟩ := runLoop_cases budget tol d exit <;> rw [e]
  · exact Nat.le_of_lt hn
  · exact hn
  · exact Nat.le_of_eq hn
/-- … and ends below tol unless the budget or the early exit was hit; the three cases are exhaustive -/
theorem loop_stop_reason (budget : Nat) (tol : Rat) (d : Nat → Rat) (exit : Nat → Bool) :
    match runLoop budget tol d exit with
    | (len, .converged) => 1 ≤ len ∧ d (len - 1) < tol
    | (len, .exhausted) => len = budget
    | (len, .early) => exit len = true := by
  obtain ⟨n, -, ⟨e, -, he⟩ | ⟨e, -, -, hd⟩ | ⟨e, hn⟩⟩ := runLoop_cases budget tol d exit <;> rw [e]
  · exact he
  · exact ⟨Nat.succ_pos n, hd⟩
  · exact hn

example : runLoop 5 (1/10) (fun k => 1 / ((k : Rat) + 1)) (fun _ => false) = (5, .exhausted) ∧
    runLoop 20 (1/10) (fun k => 1 / ((k : Rat) + 1)) (fun _ => false) = (11, .converged) ∧
    runLoop 20 (1/10) (fun k => 1 / ((k : Rat) + 1)) (fun k => k == 3) = (3, .early) := by decide +kernel

/-! ### table obligation over the regenerated method registry (Route A, `Gen/Registry`) -/
open PbVerif.Gen in
/-- the row was probed, no public method hands back a flat per-point array (one probe call per method, every run), and a 2-D method that
sorts its data un-sorts every output it reshapes: its `reshape_keys` (the per-point outputs of a core working on flattened arrays,
`reshape_baseline`) are among its `sort_keys` -/
def rowShaped (r : MethodRow) : Bool :=
  r.probed && r.flatKeys.isEmpty && (!r.twoD || r.skipSorting || r.reshapeKeys.all fun k => r.sortKeys.contains k)

open PbVerif.Gen in
theorem registry_perpoint_keys_shaped :
    registry.all rowShaped = true ∧ registryTranslated = true ∧ 90 ≤ registry.length := by decide +kernel

/-! ### the iteration loops as they are written in the source (Route A, `Gen/Loops`, regenerated on every run)

`harness/pbv/translate_loops.py` reads one row from every function of the algorithm modules that assigns `tol_history`;
`LoopTbl.run` is the meaning of a row for ARBITRARY numeric behaviour (`d k` = the value recorded in step k, `fl k p` = the opaque
condition tested at position p of the body in step k).  The statements below hold for every row of the table, every
`max_iter ≥ guard` (guard ≠ 0 only for dietrich, whose loop sits under `if max_iter > 1`), every tol, `d` and `fl`: one lemma
for the generic row shape (`Lemmas.LoopTbl.run_good`) + `decide` over the table. -/
section Loops
open PbVerif.Gen PbVerif.LoopTbl PbVerif.Lemmas.LoopTbl

/-- every function that assigns `tol_history` was inside the translated fragment (no `translationFailed` marker) -/
theorem loops_translated : loopFailed = [] ∧ loopsTranslated = true ∧ 55 ≤ loopTable.length ∧ 5 ≤ nestTable.length := by decide +kernel

theorem loops_rows_ok : loopTable.all Row.ok = true := LoopRows.loopTable_ok

theorem loops_row_ok {r : Row} (hr : r ∈ loopTable) : r.ok = true := List.all_eq_true.mp loops_rows_ok r hr

/-- `max_iter = 0` and the other empty ranges: the run raises (the loop variable is unbound when the slice is taken — an ordinary
exception, allowed by the property) exactly when `range(lo, hi(max_iter))` is empty -/
theorem loops_raise_iff_empty_range (r : Row) (hr : r ∈ loopTable) (n : Nat) (hn : r.guard ≤ n) (tol : Rat) (d : Nat → Rat)
    (fl : Nat → Nat → Bool) : (run r n tol d fl).raised = true ↔ r.budget n = 0 := by
  refine ⟨fun h => by_contra fun hb => ?_, fun hb => by rw [run, if_pos hb]⟩
  rw [(run_good (loops_row_ok hr) hb tol d fl).notRaised] at h
  cases h

/-- (a) every write `tol_history[i + c] = …` lands inside the allocation: no IndexError, and no silent wrap-around through a
negative index either -/
theorem loops_writes_in_bounds (r : Row) (hr : r ∈ loopTable) (n : Nat) (hn : r.guard ≤ n) (hb : r.budget n ≠ 0) (tol : Rat)
    (d : Nat → Rat) (fl : Nat → Nat → Bool) :
    ∀ x ∈ (run r n tol d fl).writes, 0 ≤ x.1 ∧ x.1 < r.alloc.eval n := by
  intro x hx
  have g := run_good (loops_row_ok hr) hb tol d fl
  obtain ⟨h1, h2⟩ := g.mem_writes.mp hx
  exact ⟨h2 ▸ Int.natCast_nonneg x.2, h1.trans_le (g.slice_in (budget_le (loops_row_ok hr) hn hb).1).1.2⟩

/-- (b) the final slice `tol_history[:i + c]` has a bound within the allocation, and EVERY entry it hands back was written (entry j
in step j): no uninitialised `np.empty` memory reaches the caller, on any of the three paths; and nothing recorded is cut off -/
theorem loops_slice_initialised (r : Row) (hr : r ∈ loopTable) (n : Nat) (hn : r.guard ≤ n) (hb : r.budget n ≠ 0) (tol : Rat)
    (d : Nat → Rat) (fl : Nat → Nat → Bool) :
    (0 ≤ (run r n tol d fl).slice ∧ (run r n tol d fl).slice ≤ r.alloc.eval n) ∧
    (∀ j : Nat, j < sliceLen (r.alloc.eval n) (run r n tol d fl).slice → ((j : Int), j) ∈ (run r n tol d fl).writes) ∧
    (∀ x ∈ (run r n tol d fl).writes, x.1 < (run r n tol d fl).slice) :=
  have g := run_good (loops_row_ok hr) hb tol d fl
  have ⟨hs, hl⟩ := g.slice_in (budget_le (loops_row_ok hr) hn hb).1
  ⟨hs, fun _ hj => g.mem_writes.mpr ⟨Int.lt_toNat.1 (hl ▸ hj), rfl⟩, fun _ hx => (g.mem_writes.mp hx).1⟩

/-- (c) the returned record has at most `budget ≤ max_iter + 1` entries … -/
theorem loops_record_len (r : Row) (hr : r ∈ loopTable) (n : Nat) (hn : r.guard ≤ n) (hb : r.budget n ≠ 0) (tol : Rat)
    (d : Nat → Rat) (fl : Nat → Nat → Bool) :
    sliceLen (r.alloc.eval n) (run r n tol d fl).slice ≤ r.budget n ∧ r.budget n ≤ n + 1 :=
  have g := run_good (loops_row_ok hr) hb tol d fl
  have hn' := budget_le (loops_row_ok hr) hn hb
  ⟨(g.slice_in hn'.1).2 ▸ g.len_le, hn'.2⟩

/-- … and ends below tol unless the budget was exhausted or an early exit fired (the three reasons are exhaustive) -/
theorem loops_stop_reason (r : Row) (hr : r ∈ loopTable) (n : Nat) (hn : r.guard ≤ n) (hb : r.budget n ≠ 0) (tol : Rat)
    (d : Nat → Rat) (fl : Nat → Nat → Bool) :
    match (run r n tol d fl).stop with
    | .converged => 1 ≤ (run r n tol d fl).slice.toNat ∧ d ((run r n tol d fl).slice.toNat - 1) < tol
    | .exhausted => (run r n tol d fl).slice.toNat = r.budget n
    | .early => ∃ q, fl (run r n tol d fl).steps q = true := by
  have g := run_good (loops_row_ok hr) hb tol d fl
  generalize hs : (run r n tol d fl).stop = s
  cases s
  · obtain ⟨h1, h2⟩ := g.conv hs
    rw [← h1]
    exact ⟨Nat.succ_pos _, h2⟩
  · exact (g.exh hs).2
  · exact (g.early hs).1

/-- (d) a row whose final test is `x < tol` IS the hand skeleton `Loop.runLoop` with the row's own budget, the same difference stream and
the row's early-exit flag, its record the skeleton's history: `loop_hist_len`, `loop_stop_reason` and C09's `stop_*` / `hist_prefix`
transfer to each such method -/
theorem loops_eq_skeleton (r : Row) (hr : r ∈ loopTable) (b : Bool) (hs : r.shape = some (b, .tol)) (n : Nat) (hn : r.guard ≤ n)
    (hb : r.budget n ≠ 0) (tol : Rat) (d : Nat → Rat) (fl : Nat → Nat → Bool) :
    ((run r n tol d fl).slice.toNat, (run r n tol d fl).stop) = runLoop (r.budget n) tol d (r.exitOf fl) ∧
    (run r n tol d fl).writes.map (fun x => d x.2) = history (r.budget n) tol d (r.exitOf fl) := by
  have h := run_skeleton (loops_row_ok hr) hs hb tol d fl
  rw [runLoop_enc_tol] at h
  have h : ((run r n tol d fl).slice.toNat, (run r n tol d fl).stop) = runLoop (r.budget n) tol d (r.exitOf fl) :=
    Prod.ext h.1 (h.2.2 (.inl rfl))
  refine ⟨h, ?_⟩
  rw [(run_good (loops_row_ok hr) hb tol d fl).writes_eq, history, ← h]
  simp [pairs, Function.comp_def]

/-- every translated single loop has the skeleton's shape ([flag exit,] record, test) -/
theorem loops_all_shaped : loopTable.all (fun r => r.shape.isSome) = true := by decide +kernel

/-- the other final tests (`x < tol or e`: ria; `x < tol and e`: jbcd): the same LENGTH as the skeleton run on the outcomes of that test -/
theorem loops_len_eq_skeleton (r : Row) (hr : r ∈ loopTable) (b : Bool) (t : Test) (hs : r.shape = some (b, t)) (n : Nat)
    (hb : r.budget n ≠ 0) (tol : Rat) (d : Nat → Rat) (fl : Nat → Nat → Bool) :
    (run r n tol d fl).slice.toNat = (runLoop (r.budget n) tol (r.enc t tol d fl) (r.exitOf fl)).1 ∧
    ((run r n tol d fl).stop = .exhausted ↔ (runLoop (r.budget n) tol (r.enc t tol d fl) (r.exitOf fl)).2 = .exhausted) :=
  have h := run_skeleton (loops_row_ok hr) hs hb tol d fl
  ⟨h.1, h.2.1⟩

/-- the budget code of `golden/loop_budget.json` ("N+1" / "N" / "N-1") follows from the table: max_iter allows `max_iter + code`
iterations, `code = hi.const - lo` read off the loop header -/
theorem loops_budget_code (r : Row) (hr : r ∈ loopTable) (n : Nat) : r.hi.coef = 1 ∧ r.budget n = ((n : Int) + r.code).toNat := by
  have hc : r.hi.coef = 1 := by
    have : loopTable.all (fun r => r.hi.coef == 1) = true := by decide +kernel
    simpa using List.all_eq_true.mp this r hr
  exact ⟨hc, budget_code r hc n⟩

/-- non-vacuity: rows of the table on concrete streams (airpls: 1-based loop with the early exit; modpoly: range(max_iter)) -/
example : (loopTable.find? (·.key == "airpls")).map (fun r => (r.budget 5,
      run r 5 (1/10) (fun k => 1 / ((k : Rat) + 1)) (fun _ _ => false),
      run r 20 (1/10) (fun k => 1 / ((k : Rat) + 1)) (fun _ _ => false),
      run r 20 (1/10) (fun k => 1 / ((k : Rat) + 1)) (fun k p => k == 3 && p == 0),
      run r 0 (1/10) (fun _ => 1) (fun k _ => k == 0))) =
    some (6, ⟨false, [(0,0),(1,1),(2,2),(3,3),(4,4),(5,5)], 6, 6, .exhausted⟩,
      ⟨false, [(0,0),(1,1),(2,2),(3,3),(4,4),(5,5),(6,6),(7,7),(8,8),(9,9),(10,10)], 11, 10, .converged⟩,
      ⟨false, [(0,0),(1,1),(2,2)], 3, 3, .early⟩,
      ⟨false, [], 0, 0, .early⟩) := by decide +kernel
example : (loopTable.find? (·.key == "modpoly")).map (fun r => ((run r 0 1 (fun _ => 0) (fun _ _ => false)).raised,
      run r 1 1 (fun _ => 0) (fun _ _ => false))) = some (true, ⟨false, [(0,0)], 1, 0, .converged⟩) := by decide +kernel

/-! ### the two-level loops (brpls, pspline_brpls and their 2-D versions; goldindec): `tol_history` is a `np.zeros` matrix with one
row per outer iteration; `d a k` = the value recorded in inner step k of outer step a, `fl a k p` / `ofl a p` the opaque conditions -/
open PbVerif.Lemmas.LoopNest in
theorem nest_rows_ok : nestTable.all NestRow.ok = true := by decide +kernel

open PbVerif.Lemmas.LoopNest in
/-- for every max_iter, max_iter_2, tol and numeric behaviour: the call raises exactly when one of the two ranges is empty (a loop
variable is unbound when read — an ordinary exception); otherwise every write `tol_history[i + r, j + c]` / `tol_history[r, i + c]`
and the final slice `[:i + S, :max(i, j_max) + T]` are inside the allocation `(max_iter_2 + R, max(max_iter, max_iter_2) + C)`, every
recorded entry is inside the slice, and the matrix was zero-initialised — nothing uninitialised can be handed back -/
theorem nest_memory_safe (r : NestRow) (hr : r ∈ nestTable) (m m2 : Nat) (tol : Rat) (d : Nat → Nat → Rat)
    (fl : Nat → Nat → Nat → Bool) (ofl : Nat → Nat → Bool) :
    r.zeroed = true ∧
    ((nrun r m m2 tol d fl ofl).raised = true ↔ ((m2 : Int) + r.ohi ≤ 0 ∨ (m : Int) + r.ihi ≤ 0)) ∧
    ((nrun r m m2 tol d fl ofl).raised = false →
      (∀ x ∈ (nrun r m m2 tol d fl ofl).writes, (0 ≤ x.1 ∧ x.1 < r.allocRows m2) ∧ (0 ≤ x.2 ∧ x.2 < r.allocCols m m2) ∧
        x.1 < (nrun r m m2 tol d fl ofl).srow ∧ x.2 < (nrun r m m2 tol d fl ofl).scol) ∧
      (0 ≤ (nrun r m m2 tol d fl ofl).srow ∧ (nrun r m m2 tol d fl ofl).srow ≤ r.allocRows m2) ∧
      (0 ≤ (nrun r m m2 tol d fl ofl).scol ∧ (nrun r m m2 tol d fl ofl).scol ≤ r.allocCols m m2)) := by
  have hok : r.ok = true := List.all_eq_true.mp nest_rows_ok r hr
  refine ⟨?_, nrun_raised_iff hok m m2 tol d fl ofl, fun h => ?_⟩
  · exact (Ok.of_ok hok).zeroed
  · have g := nrun_good hok (mt (nrun_raised_iff hok m m2 tol d fl ofl).mpr (by rw [h]; exact Bool.false_ne_true)) tol d fl ofl
    exact ⟨fun x hx => let ⟨h1, h2, h3, h4, h5⟩ := g.writes x hx; ⟨⟨h1, h2⟩, ⟨h3, h4⟩, h5⟩, g.srow_in, g.scol_in⟩

open PbVerif.Lemmas.LoopNest in
/-- no entry of a two-level record is written twice (no recorded value overwrites another): the inner loop fills row `i + r` left to right,
the outer writes go to their own constant rows below `r`, one column per outer step -/
theorem nest_no_overwrite (r : NestRow) (hr : r ∈ nestTable) (m m2 : Nat) (tol : Rat) (d : Nat → Nat → Rat)
    (fl : Nat → Nat → Nat → Bool) (ofl : Nat → Nat → Bool) : (nrun r m m2 tol d fl ofl).writes.Nodup :=
  nrun_nodup r (List.all_eq_true.mp nest_rows_ok r hr)
    (List.all_eq_true.mp (by decide +kernel : nestTable.all NestRow.distinct = true) r hr) m m2 tol d fl ofl

/-- non-vacuity: brpls' row with max_iter = 2, max_iter_2 = 1: the inner loop converges in its third step in outer step 0 and takes the
early exit at once in outer step 1; goldindec's row raises for max_iter = 0 -/
example : (nestTable.find? (·.key == "brpls")).map (fun r =>
      nrun r 2 1 (1/2) (fun _ k => 1 / ((k : Rat) + 1)) (fun a k p => a == 1 && k == 0 && p == 0) (fun _ _ => false)) =
    some ⟨false, [(1, 0), (1, 1), (1, 2), (0, 0), (0, 1)], 3, 3, 2⟩ := by decide +kernel
example : (nestTable.find? (·.key == "goldindec")).map (fun r =>
      ((nrun r 0 3 1 (fun _ _ => 0) (fun _ _ _ => false) (fun _ _ => false)).raised,
       nrun r 3 2 1 (fun _ _ => 0) (fun _ _ _ => false) (fun a p => a == 1 && p == 5))) =
    some (true, ⟨false, [(2, 0), (0, 0), (1, 0), (3, 0), (0, 1), (1, 1)], 4, 2, 2⟩) := by decide +kernel

end Loops

end PbVerif.C01
