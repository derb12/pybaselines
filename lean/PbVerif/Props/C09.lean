import PbVerif.Lemmas.WExpr
import PbVerif.Lemmas.WeightingReal
import PbVerif.Lemmas.LoopTbl
import PbVerif.Lemmas.LoopRows
/-! C09 — each reweighting step follows the documented rule and the stop rule is honest.
The rules are the definitions of `Model/Weighting.lean` (the same definitions the driver runs at `Float`), proved here over
every linear ordered field whose `exp`, `sqrt` and `abs` satisfy `TranscOk`. -/
namespace PbVerif.C09
open PbVerif.Weighting PbVerif.Lemmas PbVerif.Loop PbVerif.WExpr PbVerif.Gen

section weighting
variable {α : Type} [Field α] [LinearOrder α] [IsStrictOrderedRing α] [T : Transc α] (hT : TranscOk T)
include hT

theorem asls_range (p r : α) (hp : 0 ≤ p ∧ p ≤ 1) : 0 ≤ aslsW p r ∧ aslsW p r ≤ 1 := by
  unfold aslsW
  split_ifs
  exacts [hp, one_sub_range hp]
theorem asls_antitone (p r₁ r₂ : α) (hp : p ≤ 1 - p) (h : r₁ ≤ r₂) : aslsW p r₂ ≤ aslsW p r₁ :=
  step_antitone (a := fun _ => p) (fun _ _ => hp) (fun _ _ _ _ => le_rfl) h

/-- documented regime p ≤ ½: necessary, not a loosening — for p > 1 − p the rule is not antitone -/
theorem asls_not_antitone (p : α) (hp : 1 - p < p) : aslsW p (-1) < aslsW p 1 := by
  unfold aslsW
  rwa [if_neg (lt_asymm neg_one_lt_zero), if_pos one_pos]

theorem arpls_range (std mean r : α) : 0 ≤ arplsW std mean r ∧ arplsW std mean r ≤ 1 :=
  (expit_range hT _).imp_left le_of_lt
theorem arpls_antitone (std mean r₁ r₂ : α) (hs : 0 < std) (h : r₁ ≤ r₂) : arplsW std mean r₂ ≤ arplsW std mean r₁ :=
  expit_mono hT (affine_anti (Nat.ofNat_nonneg 2) hs.le _ h)

theorem aspls_range (k std r : α) : 0 ≤ asplsW k std r ∧ asplsW k std r ≤ 1 :=
  (expit_range hT _).imp_left le_of_lt
theorem aspls_antitone (k std r₁ r₂ : α) (hk : 0 ≤ k) (hs : 0 < std) (h : r₁ ≤ r₂) : asplsW k std r₂ ≤ asplsW k std r₁ :=
  expit_mono hT (affine_anti hk hs.le _ h)

theorem drpls_range (K std mean r : α) : 0 ≤ drplsW K std mean r ∧ drplsW K std mean r ≤ 1 :=
  half_range (div_range (hT.abs_lt_one_add _))
theorem drpls_antitone (K std mean r₁ r₂ : α) (hK : 0 ≤ K) (hs : 0 < std) (h : r₁ ≤ r₂) :
    drplsW K std mean r₂ ≤ drplsW K std mean r₁ :=
  half_anti (hT.softsign_mono (affine_mono hK hs.le _ h))

theorem iarpls_range (K std r : α) : 0 ≤ iarplsW K std r ∧ iarplsW K std r ≤ 1 :=
  half_range (div_range (hT.abs_lt_sqrt _))
theorem iarpls_antitone (K std r₁ r₂ : α) (hK : 0 ≤ K) (hs : 0 < std) (h : r₁ ≤ r₂) : iarplsW K std r₂ ≤ iarplsW K std r₁ :=
  half_anti (hT.invsqrt_mono (affine_mono hK hs.le _ h))

theorem psalsa_range (p k r : α) (hp : 0 ≤ p ∧ p ≤ 1) (hk : 0 < k) : 0 ≤ psalsaW p k r ∧ psalsaW p k r ≤ 1 :=
  tail_range hT id r hp hk fun _ h => h
theorem psalsa_antitone (p k r₁ r₂ : α) (hp : 0 ≤ p ∧ p ≤ 1 - p) (hk : 0 < k) (h : r₁ ≤ r₂) : psalsaW p k r₂ ≤ psalsaW p k r₁ :=
  tail_antitone hT id hp hk (fun _ h => h) (fun _ _ _ h => h) h

theorem derpsalsa_range (p k pw r : α) (hp : 0 ≤ p ∧ p ≤ 1) (hk : 0 < k) (hpw : 0 ≤ pw ∧ pw ≤ 1) :
    0 ≤ derpsalsaW p k pw r ∧ derpsalsaW p k pw r ≤ 1 :=
  mul_range (tail_range hT (fun u => 1 / 2 * (u * u)) r hp hk fun u _ => half_sq_nonneg u) hpw
theorem derpsalsa_antitone (p k pw r₁ r₂ : α) (hp : 0 ≤ p ∧ p ≤ 1 - p) (hk : 0 < k) (hpw : 0 ≤ pw) (h : r₁ ≤ r₂) :
    derpsalsaW p k pw r₂ ≤ derpsalsaW p k pw r₁ :=
  mul_le_mul_of_nonneg_right
    (tail_antitone hT (fun u => 1 / 2 * (u * u)) hp hk (fun u _ => half_sq_nonneg u) (fun _ _ => half_sq_mono) h) hpw

/-! airPLS is non-negative and antitone, and in [0, 1] only once divided by its maximum (the `normalize_weights` option):
the documented un-normalised exception of the property -/

theorem airpls_nonneg (t S M r : α) : 0 ≤ airplsRaw t S M r := by
  unfold airplsRaw
  split_ifs
  exacts [(hT.exp_pos _).le, le_rfl]
theorem airpls_antitone (t S M r₁ r₂ : α) (ht : 0 ≤ t) (hS : S < 0) (hM : 0 ≤ M) (h : r₁ ≤ r₂) :
    airplsRaw t S M r₂ ≤ airplsRaw t S M r₁ := by
  by_cases h2 : r₂ < 0
  · simp only [airplsRaw, if_pos h2, if_pos (h.trans_lt h2), clip_eq_min_max hM]
    exact hT.exp_mono _ _ (min_le_min_right _ (max_le_max_right _
      (mul_le_mul_of_nonpos_left h (div_nonpos_of_nonneg_of_nonpos ht hS.le))))
  · rw [show airplsRaw t S M r₂ = 0 from if_neg h2]
    exact airpls_nonneg hT t S M r₁
theorem airpls_normalised_range (t S M r mx : α) (hmx : 0 < mx) (hle : airplsRaw t S M r ≤ mx) :
    0 ≤ airplsRaw t S M r / mx ∧ airplsRaw t S M r / mx ≤ 1 :=
  ⟨div_nonneg (airpls_nonneg hT t S M r) hmx.le, (div_le_one hmx).mpr hle⟩

/-- quantile-loss weight: positive and bounded by max(q, 1−q)/√eps (documented rule; not confined to [0, 1]) -/
theorem quantile_bounds (q eps r : α) (hq : 0 < q ∧ q < 1) (he : 0 < eps) :
    0 < quantileW q eps r ∧ quantileW q eps r * Transc.sqrt eps ≤ max q (1 - q) :=
  Lemmas.quantile_bounds hT q eps r hq he

/-- brpls: range for any erf value in [−1, 1] (partial: monotonicity needs analytic facts about erf not available in Mathlib) -/
theorem brpls_range_partial (m u e : α) (hm : 0 ≤ m) (he : -1 ≤ e ∧ e ≤ 1) : 0 < brplsW m u e ∧ brplsW m u e ≤ 1 :=
  recip_range (mul_nonneg (mul_nonneg hm (neg_le_iff_add_nonneg'.mp he.1)) (hT.exp_pos _).le)

/-! ### Route A: the same statements about the expressions translated from the source on every run

`Gen.Src.<rule>` (`Gen/WeightExprs.lean`) is the final weight expression of `_weighting._<rule>` parsed from the working
tree by `harness/pbv/translate_weights.py`, local names inlined; the step statistics `std`, `meanNeg`, `sumNeg`, `maxNegW`
and the machine constants `clipMax`, `minFloat` are named inputs of the environment like the scalar arguments.
`gen_<rule>_eq_model` says that it denotes the hand model's per-point function, so an edit of a constant, a sign or an
operator of the source makes it fail; `src_<rule>_range` / `src_<rule>_antitone` carry the theorems above over to the
source expression.  brpls is not translated (erf, finfo-derived clips). -/
section source
omit hT
set_option linter.unusedSectionVars false

theorem gen_asls_eq_model (env : Env α) : eval env Src.asls = aslsW (env.s "p") env.r := by
  simp only [wexpr, Src.asls, aslsW]

theorem gen_arpls_eq_model (env : Env α) : eval env Src.arpls = arplsW (env.s "std") (env.s "meanNeg") env.r := by
  simp only [wexpr, Src.arpls, arplsW]

theorem gen_aspls_eq_model (env : Env α) : eval env Src.aspls = asplsW (env.s "asymmetric_coef") (env.s "std") env.r := by
  simp only [wexpr, Src.aspls, asplsW]

/-- `expK it = exp(min(it, 100))`: the cap is part of the statement -/
theorem gen_drpls_eq_model (env : Env α) :
    eval env Src.drpls = drplsW (expK (env.n "iteration")) (env.s "std") (env.s "meanNeg") env.r := Lemmas.gen_drpls_eq_model env

/-- `tenK it = 10 ^ min(it, 100)` -/
theorem gen_lsrpls_eq_model (env : Env α) :
    eval env Src.lsrpls = drplsW (tenK (env.n "iteration")) (env.s "std") (env.s "meanNeg") env.r := by
  simp only [wexpr, Src.lsrpls, drplsW, tenK]

theorem gen_iarpls_eq_model (env : Env α) :
    eval env Src.iarpls = iarplsW (expK (env.n "iteration")) (env.s "std") env.r := by
  simp only [wexpr, Src.iarpls, iarplsW, expK, capIter]

theorem gen_psalsa_eq_model (env : Env α) : eval env Src.psalsa = psalsaW (env.s "p") (env.s "k") env.r := by
  simp only [wexpr, Src.psalsa, psalsaW]

theorem gen_derpsalsa_eq_model (env : Env α) :
    eval env Src.derpsalsa = derpsalsaW (env.s "p") (env.s "k") (env.s "partial_weights") env.r := by
  simp only [wexpr, Src.derpsalsa, derpsalsaW]

/-- the source guards the denominator with `max(eps, _MIN_FLOAT)` -/
theorem gen_quantile_eq_model (env : Env α) :
    eval env Src.quantile = quantileW (env.s "quantile") (max (env.s "eps") (env.s "minFloat")) env.r :=
  Lemmas.gen_quantile_eq_model env

/-- `airplsT it = min(it, 50)`; `0 ≤ clipMax` (≈ 709.78 in the source) makes `np.clip(·, 0, clipMax)` the model's clip -/
theorem gen_airpls_eq_model (env : Env α) (hM : 0 ≤ env.s "clipMax") :
    eval env Src.airpls = airplsRaw (airplsT (env.n "iteration")) (env.s "sumNeg") (env.s "clipMax") env.r :=
  Lemmas.gen_airpls_eq_model env hM
theorem gen_airplsNorm_eq_model (env : Env α) (hM : 0 ≤ env.s "clipMax") :
    eval env Src.airplsNorm =
      airplsRaw (airplsT (env.n "iteration")) (env.s "sumNeg") (env.s "clipMax") env.r / env.s "maxNegW" := by
  rw [← gen_airpls_eq_model env hM]
  simp only [Src.airplsNorm, Src.airpls, eval, Nat.cast_zero]
  -- the source divides only where `r < 0`; elsewhere the raw weight is 0
  by_cases hr : env.r < 0
  · simp only [if_pos hr]
  · simp only [if_neg hr, zero_div]

include hT

theorem src_asls_range (env : Env α) (hp : 0 ≤ env.s "p" ∧ env.s "p" ≤ 1) :
    0 ≤ eval env Src.asls ∧ eval env Src.asls ≤ 1 := by
  rw [gen_asls_eq_model]; exact asls_range hT _ _ hp
theorem src_asls_antitone (env : Env α) (r₁ r₂ : α) (hp : env.s "p" ≤ 1 - env.s "p") (h : r₁ ≤ r₂) :
    eval (atR env r₂) Src.asls ≤ eval (atR env r₁) Src.asls := by
  rw [gen_asls_eq_model, gen_asls_eq_model]; exact asls_antitone hT _ _ _ hp h

theorem src_arpls_range (env : Env α) : 0 ≤ eval env Src.arpls ∧ eval env Src.arpls ≤ 1 := by
  rw [gen_arpls_eq_model]; exact arpls_range hT _ _ _
theorem src_arpls_antitone (env : Env α) (r₁ r₂ : α) (hs : 0 < env.s "std") (h : r₁ ≤ r₂) :
    eval (atR env r₂) Src.arpls ≤ eval (atR env r₁) Src.arpls := by
  rw [gen_arpls_eq_model, gen_arpls_eq_model]; exact arpls_antitone hT _ _ _ _ hs h

theorem src_aspls_range (env : Env α) : 0 ≤ eval env Src.aspls ∧ eval env Src.aspls ≤ 1 := by
  rw [gen_aspls_eq_model]; exact aspls_range hT _ _ _
theorem src_aspls_antitone (env : Env α) (r₁ r₂ : α) (hk : 0 ≤ env.s "asymmetric_coef") (hs : 0 < env.s "std")
    (h : r₁ ≤ r₂) : eval (atR env r₂) Src.aspls ≤ eval (atR env r₁) Src.aspls := by
  rw [gen_aspls_eq_model, gen_aspls_eq_model]; exact aspls_antitone hT _ _ _ _ hk hs h

theorem src_drpls_range (env : Env α) : 0 ≤ eval env Src.drpls ∧ eval env Src.drpls ≤ 1 := by
  rw [gen_drpls_eq_model]; exact drpls_range hT _ _ _ _
theorem src_drpls_antitone (env : Env α) (r₁ r₂ : α) (hs : 0 < env.s "std") (h : r₁ ≤ r₂) :
    eval (atR env r₂) Src.drpls ≤ eval (atR env r₁) Src.drpls := by
  rw [gen_drpls_eq_model, gen_drpls_eq_model]; exact drpls_antitone hT _ _ _ _ _ (expK_pos hT _).le hs h

theorem src_lsrpls_range (env : Env α) : 0 ≤ eval env Src.lsrpls ∧ eval env Src.lsrpls ≤ 1 := by
  rw [gen_lsrpls_eq_model]; exact drpls_range hT _ _ _ _
theorem src_lsrpls_antitone (env : Env α) (r₁ r₂ : α) (hs : 0 < env.s "std") (h : r₁ ≤ r₂) :
    eval (atR env r₂) Src.lsrpls ≤ eval (atR env r₁) Src.lsrpls := by
  rw [gen_lsrpls_eq_model, gen_lsrpls_eq_model]; exact drpls_antitone hT _ _ _ _ _ (tenK_nonneg _) hs h

theorem src_iarpls_range (env : Env α) : 0 ≤ eval env Src.iarpls ∧ eval env Src.iarpls ≤ 1 := by
  rw [gen_iarpls_eq_model]; exact iarpls_range hT _ _ _
theorem src_iarpls_antitone (env : Env α) (r₁ r₂ : α) (hs : 0 < env.s "std") (h : r₁ ≤ r₂) :
    eval (atR env r₂) Src.iarpls ≤ eval (atR env r₁) Src.iarpls := by
  rw [gen_iarpls_eq_model, gen_iarpls_eq_model]; exact iarpls_antitone hT _ _ _ _ (expK_pos hT _).le hs h

theorem src_psalsa_range (env : Env α) (hp : 0 ≤ env.s "p" ∧ env.s "p" ≤ 1) (hk : 0 < env.s "k") :
    0 ≤ eval env Src.psalsa ∧ eval env Src.psalsa ≤ 1 := by
  rw [gen_psalsa_eq_model]; exact psalsa_range hT _ _ _ hp hk
theorem src_psalsa_antitone (env : Env α) (r₁ r₂ : α) (hp : 0 ≤ env.s "p" ∧ env.s "p" ≤ 1 - env.s "p")
    (hk : 0 < env.s "k") (h : r₁ ≤ r₂) : eval (atR env r₂) Src.psalsa ≤ eval (atR env r₁) Src.psalsa := by
  rw [gen_psalsa_eq_model, gen_psalsa_eq_model]; exact psalsa_antitone hT _ _ _ _ hp hk h

theorem src_derpsalsa_range (env : Env α) (hp : 0 ≤ env.s "p" ∧ env.s "p" ≤ 1) (hk : 0 < env.s "k")
    (hpw : 0 ≤ env.s "partial_weights" ∧ env.s "partial_weights" ≤ 1) :
    0 ≤ eval env Src.derpsalsa ∧ eval env Src.derpsalsa ≤ 1 := by
  rw [gen_derpsalsa_eq_model]; exact derpsalsa_range hT _ _ _ _ hp hk hpw
theorem src_derpsalsa_antitone (env : Env α) (r₁ r₂ : α) (hp : 0 ≤ env.s "p" ∧ env.s "p" ≤ 1 - env.s "p")
    (hk : 0 < env.s "k") (hpw : 0 ≤ env.s "partial_weights") (h : r₁ ≤ r₂) :
    eval (atR env r₂) Src.derpsalsa ≤ eval (atR env r₁) Src.derpsalsa := by
  rw [gen_derpsalsa_eq_model, gen_derpsalsa_eq_model]; exact derpsalsa_antitone hT _ _ _ _ _ hp hk hpw h

/-- airPLS, un-normalised; `sumNeg < 0` holds whenever the early-exit guard passed -/
theorem src_airpls_nonneg (env : Env α) (hM : 0 ≤ env.s "clipMax") : 0 ≤ eval env Src.airpls := by
  rw [gen_airpls_eq_model env hM]; exact airpls_nonneg hT _ _ _ _
theorem src_airpls_antitone (env : Env α) (r₁ r₂ : α) (hS : env.s "sumNeg" < 0) (hM : 0 ≤ env.s "clipMax") (h : r₁ ≤ r₂) :
    eval (atR env r₂) Src.airpls ≤ eval (atR env r₁) Src.airpls := by
  rw [gen_airpls_eq_model (atR env r₂) hM, gen_airpls_eq_model (atR env r₁) hM]
  exact airpls_antitone hT _ _ _ _ _ (airplsT_nonneg _) hS hM h

/-- with `normalize_weights`: in [0, 1] when `maxNegW` bounds the raw weight of the point (it is the maximum over the points) -/
theorem src_airplsNorm_range (env : Env α) (hM : 0 ≤ env.s "clipMax") (hmx : 0 < env.s "maxNegW")
    (hle : eval env Src.airpls ≤ env.s "maxNegW") : 0 ≤ eval env Src.airplsNorm ∧ eval env Src.airplsNorm ≤ 1 := by
  rw [gen_airpls_eq_model env hM] at hle
  rw [gen_airplsNorm_eq_model env hM]; exact airpls_normalised_range hT _ _ _ _ _ hmx hle
theorem src_airplsNorm_antitone (env : Env α) (r₁ r₂ : α) (hS : env.s "sumNeg" < 0) (hM : 0 ≤ env.s "clipMax")
    (hmx : 0 < env.s "maxNegW") (h : r₁ ≤ r₂) : eval (atR env r₂) Src.airplsNorm ≤ eval (atR env r₁) Src.airplsNorm := by
  rw [gen_airplsNorm_eq_model (atR env r₂) hM, gen_airplsNorm_eq_model (atR env r₁) hM]
  exact div_le_div_of_nonneg_right (airpls_antitone hT _ _ _ _ _ (airplsT_nonneg _) hS hM h) hmx.le

/-- quantile-loss weight of the source: positive and bounded because `_MIN_FLOAT > 0` keeps the denominator away from 0 -/
theorem src_quantile_bounds (env : Env α) (hq : 0 < env.s "quantile" ∧ env.s "quantile" < 1) (hmin : 0 < env.s "minFloat") :
    0 < eval env Src.quantile ∧
      eval env Src.quantile * Transc.sqrt (max (env.s "eps") (env.s "minFloat")) ≤ max (env.s "quantile") (1 - env.s "quantile") :=
  Lemmas.src_quantile_bounds hT env hq hmin

end source

section nonvacuity
omit hT

/-- non-vacuity: the hypotheses `TranscOk` are those of the real functions -/
example : TranscOk realTransc := realTranscOk

attribute [local instance] realTransc in
/-- non-vacuity: a `src_*` theorem at the real functions -/
example (env : Env ℝ) (r₁ r₂ : ℝ) (hs : 0 < env.s "std") (h : r₁ ≤ r₂) :
    eval (atR env r₂) Src.arpls ≤ eval (atR env r₁) Src.arpls := src_arpls_antitone realTranscOk env r₁ r₂ hs h
attribute [local instance] ratTransc
/-! non-vacuity of the translation: every translated expression is the source's (not the failure marker) and depends on
the residual.  At `envQ`, which meets every hypothesis the `src_*` theorems place on the environment, the weight at a larger
residual is strictly smaller, inside [0, 1]; `ratTransc` has a placeholder for `sqrt`, so iarpls and quantile are only
shown to vary. -/
example : Src.aslsTranslated = true ∧ eval (envQ 3) Src.asls = 1 / 100 ∧ eval (envQ (-3)) Src.asls = 99 / 100 := by decide +kernel
example : Src.arplsTranslated = true ∧ 0 ≤ eval (envQ 7) Src.arpls ∧ eval (envQ 7) Src.arpls < eval (envQ (-1)) Src.arpls ∧
    eval (envQ (-1)) Src.arpls ≤ 1 := by decide +kernel
example : Src.asplsTranslated = true ∧ 0 ≤ eval (envQ 7) Src.aspls ∧ eval (envQ 7) Src.aspls < eval (envQ (-1)) Src.aspls ∧
    eval (envQ (-1)) Src.aspls ≤ 1 := by decide +kernel
example : Src.drplsTranslated = true ∧ 0 ≤ eval (envQ 7) Src.drpls ∧ eval (envQ 7) Src.drpls < eval (envQ (-1)) Src.drpls ∧
    eval (envQ (-1)) Src.drpls ≤ 1 := by decide +kernel
example : Src.lsrplsTranslated = true ∧ 0 ≤ eval (envQ 7) Src.lsrpls ∧ eval (envQ 7) Src.lsrpls < eval (envQ (-1)) Src.lsrpls ∧
    eval (envQ (-1)) Src.lsrpls ≤ 1 := by decide +kernel
example : Src.iarplsTranslated = true ∧ eval (envQ 7) Src.iarpls ≠ eval (envQ (-1)) Src.iarpls := by decide +kernel
example : Src.psalsaTranslated = true ∧ 0 ≤ eval (envQ 7) Src.psalsa ∧ eval (envQ 7) Src.psalsa < eval (envQ 1) Src.psalsa ∧
    eval (envQ 1) Src.psalsa < eval (envQ (-1)) Src.psalsa ∧ eval (envQ (-1)) Src.psalsa ≤ 1 := by decide +kernel
example : Src.derpsalsaTranslated = true ∧ 0 ≤ eval (envQ 7) Src.derpsalsa ∧ eval (envQ 7) Src.derpsalsa < eval (envQ 1) Src.derpsalsa ∧
    eval (envQ 1) Src.derpsalsa < eval (envQ (-1)) Src.derpsalsa ∧ eval (envQ (-1)) Src.derpsalsa ≤ 1 := by decide +kernel
example : Src.airplsTranslated = true ∧ eval (envQ 7) Src.airpls = 0 ∧ eval (envQ (-1)) Src.airpls < eval (envQ (-4)) Src.airpls ∧
    1 < eval (envQ (-4)) Src.airpls := by decide +kernel
example : Src.airplsNormTranslated = true ∧ eval (envQ 7) Src.airplsNorm = 0 ∧
    eval (envQ (-1)) Src.airplsNorm < eval (envQ (-4)) Src.airplsNorm ∧ eval (envQ (-4)) Src.airplsNorm ≤ 1 := by decide +kernel
example : Src.quantileTranslated = true ∧ 0 < eval (envQ 2) Src.quantile ∧ eval (envQ 2) Src.quantile ≠ eval (envQ (-2)) Src.quantile := by
  decide +kernel
end nonvacuity

end weighting

/-! ### the stop rule (all hosts share the skeleton `Loop.runLoop`)

The iteration stops at the FIRST recorded value below tol, or when the budget is exhausted, or at the documented early exit —
never earlier or later. -/

theorem stop_first_below_tol (budget : Nat) (tol : Rat) (d : Nat → Rat) (exit : Nat → Bool) (len : Nat)
    (h : runLoop budget tol d exit = (len, .converged)) :
    1 ≤ len ∧ len ≤ budget ∧ d (len - 1) < tol ∧ (∀ k, k + 1 < len → ¬ d k < tol) ∧ (∀ k, k < len → exit k = false) := by
  obtain ⟨n, hq, hc⟩ := runLoop_cases budget tol d exit
  rw [h] at hc
  obtain ⟨e, _⟩ | ⟨e, hn, he, hd⟩ | ⟨e, _⟩ := hc <;> cases e
  refine ⟨Nat.succ_pos n, hn, hd, fun k hk => (hq k (Nat.lt_of_succ_lt_succ hk)).2, fun k hk => ?_⟩
  rcases Nat.eq_or_lt_of_le (Nat.le_of_lt_succ hk) with rfl | hk
  · exact he
  · exact (hq k hk).1

theorem stop_exhausted (budget : Nat) (tol : Rat) (d : Nat → Rat) (exit : Nat → Bool) (len : Nat)
    (h : runLoop budget tol d exit = (len, .exhausted)) :
    len = budget ∧ (∀ k, k < len → ¬ d k < tol) ∧ (∀ k, k < len → exit k = false) := by
  obtain ⟨n, hq, hc⟩ := runLoop_cases budget tol d exit
  rw [h] at hc
  obtain ⟨e, _⟩ | ⟨e, _⟩ | ⟨e, hn⟩ := hc <;> cases e
  exact ⟨hn, fun k hk => (hq k hk).2, fun k hk => (hq k hk).1⟩

theorem stop_early (budget : Nat) (tol : Rat) (d : Nat → Rat) (exit : Nat → Bool) (len : Nat)
    (h : runLoop budget tol d exit = (len, .early)) :
    len < budget ∧ exit len = true ∧ (∀ k, k < len → ¬ d k < tol) ∧ (∀ k, k < len → exit k = false) := by
  obtain ⟨n, hq, hc⟩ := runLoop_cases budget tol d exit
  rw [h] at hc
  obtain ⟨e, hn, he⟩ | ⟨e, _⟩ | ⟨e, _⟩ := hc <;> cases e
  exact ⟨hn, he, fun k hk => (hq k hk).2, fun k hk => (hq k hk).1⟩

theorem hist_prefix (b : Nat) (tol : Rat) (d : Nat → Rat) (exit : Nat → Bool) :
    (history b tol d exit) <+: (history (b + 1) tol d exit) := by
  unfold history runLoop
  obtain ⟨c, hc⟩ := Nat.exists_eq_add_of_le (loopFrom_mono d exit tol b 0)
  rw [hc, List.range_add, List.map_append]
  exact List.prefix_append _ _

/-- at exhaustion the returned weights are the rule applied to the returned baseline; at convergence the
returned baseline was computed from the returned weights -/
theorem exhausted_weights_rule (budget : Nat) (tol : Rat) (d : Nat → Rat) (exit : Nat → Bool) :
    let r := returned budget tol d exit
    ((runLoop budget tol d exit).2 = .converged → r.2 = some r.1) ∧
    ((runLoop budget tol d exit).2 = .early → r.2 = some r.1) ∧
    ((runLoop budget tol d exit).2 = .exhausted → 0 < budget → r.2 = some (r.1 - 1) ∧ r.1 = budget) := by
  unfold returned
  obtain ⟨n, -, ⟨e, -⟩ | ⟨e, -⟩ | ⟨e, rfl⟩⟩ := runLoop_cases budget tol d exit <;> rw [e]
  · exact ⟨nofun, fun _ => rfl, nofun⟩
  · exact ⟨fun _ => rfl, nofun, nofun⟩
  · exact ⟨nofun, nofun, fun _ hb => ⟨if_neg (Nat.ne_of_gt hb), rfl⟩⟩

/-! ### the stop rule of each method's loop AS WRITTEN (Route A, `Gen/Loops`, regenerated on every run)

For every row of the translated table, every `max_iter ≥ guard` with a non-empty range, every tol and every numeric behaviour
(`d k` = value recorded in step k, `fl k p` = the opaque flag tested at position p of the body in step k). `steps` is the step
(0-based iteration) in which the loop stopped. -/
section Loops
open PbVerif.Gen PbVerif.LoopTbl PbVerif.Lemmas.LoopTbl

/-- the decidable row conditions hold for every translated method (re-checked against the regenerated table).  This is
`C01.loops_row_ok`; in C01 the name `loops_rows_ok` is the `all` form -/
theorem loops_rows_ok {r : Row} (hr : r ∈ loopTable) : r.ok = true :=
  List.all_eq_true.mp Lemmas.LoopRows.loopTable_ok r hr

/-- never later: a loop that tests `x < tol` (alone or `or`-ed with a second criterion) is still running only if no earlier
recorded value was below tol; never earlier: it stops only because the value recorded in that very step is below tol
(`converged`: that value is the last entry of the record), because all `budget` steps were used (`exhausted`), or because a
flag tested in that step was set (`early`) -/
theorem loops_stop_first (r : Row) (hr : r ∈ loopTable) (n : Nat) (hn : r.guard ≤ n) (hb : r.budget n ≠ 0) (tol : Rat)
    (d : Nat → Rat) (fl : Nat → Nat → Bool) :
    (hasTol r.body = true → ∀ j, j < (run r n tol d fl).steps → ¬ d j < tol) ∧
    ((run r n tol d fl).stop = .converged →
      (run r n tol d fl).steps + 1 = (run r n tol d fl).slice.toNat ∧ d (run r n tol d fl).steps < tol) ∧
    ((run r n tol d fl).stop = .exhausted →
      (run r n tol d fl).steps = r.budget n ∧ (run r n tol d fl).slice.toNat = r.budget n) ∧
    ((run r n tol d fl).stop = .early →
      (∃ q, fl (run r n tol d fl).steps q = true) ∧ (run r n tol d fl).steps < r.budget n ∧
      (run r n tol d fl).slice.toNat ≤ (run r n tol d fl).steps + 1 ∧ (run r n tol d fl).steps ≤ (run r n tol d fl).slice.toNat) := by
  have g := run_good (loops_rows_ok hr) hb tol d fl
  exact ⟨fun ht j => g.first ht j (Nat.zero_le j), g.conv, g.exh, g.early⟩

/-- which methods that covers: every translated loop tests `x < tol` on the value it has just recorded, except those keeping a
two-column record with a conjunction of two criteria (jbcd: `calc_tol_1 < tol and calc_tol_2 < tol_2`), which stop at the first step
where both hold (`C01.loops_len_eq_skeleton`) -/
theorem loops_tol_tested : loopTable.all (fun r => hasTol r.body || (r.cols == 2 && r.shape.map (·.2) == some .tolAnd)) = true := by
  decide +kernel

/-- non-vacuity: arpls' row (0-based, early exit before the record) on a stream crossing tol = 1/4 at step 3 -/
example : (loopTable.find? (·.key == "arpls")).map (fun r =>
      (hasTol r.body, (run r 9 (1/4) (fun k => 1 / ((k : Rat) + 1)) (fun _ _ => false)).steps,
       (run r 9 (1/4) (fun k => 1 / ((k : Rat) + 1)) (fun _ _ => false)).stop,
       (run r 2 (1/4) (fun k => 1 / ((k : Rat) + 1)) (fun _ _ => false)).stop,
       run r 9 (1/4) (fun k => 1 / ((k : Rat) + 1)) (fun k _ => k == 2))) =
    some (true, 4, .converged, .exhausted, ⟨false, [(0, 0), (1, 1)], 2, 2, .early⟩) := by decide +kernel

end Loops

end PbVerif.C09
