import PbVerif.Lemmas.Morph2d
import PbVerif.Lemmas.Hull
/-! C14 — morphological and hull baselines never exceed the data and commute with shifts.
tophat / mor / imor (1-D and 2-D) and snip on the model `PbVerif.Model.Morph` of SciPy's reflect-mode flat morphology;
rubberband without smoothing is the lower convex hull (what an accepted `isLowerHull` certificate implies).
`LeL a b`: same length and `a[i] ≤ b[i]` throughout. -/
namespace PbVerif.C14
open PbVerif.Morph PbVerif.Lemmas PbVerif.Lemmas.Hull

/-- `mode='reflect'` commutes with erosion and dilation, for any length ≥ 1 and any h, also windows longer than the data:
this is what lets the laws of finite signals be read off the lattice laws of the infinite extension -/
theorem refl_erode_comm (h : Nat) (f : List Rat) (hf : f ≠ []) (i : Int) :
    ext (erode h f) i = winMin (ext f) h i := ext_winMap dirMin h f (List.length_pos_iff.mpr hf) i
theorem refl_dilate_comm (h : Nat) (f : List Rat) (hf : f ≠ []) (i : Int) :
    ext (dilate h f) i = winMax (ext f) h i := ext_winMap dirMax h f (List.length_pos_iff.mpr hf) i

theorem tophat_le (h : Nat) (f : List Rat) : LeL (tophat h f) f := opening_le h f
theorem tophat_idem (h : Nat) (f : List Rat) : tophat h (tophat h f) = tophat h f := opening_idem h f
theorem tophat_shift (h : Nat) (f : List Rat) (c : Rat) : tophat h (f.map (· + c)) = (tophat h f).map (· + c) :=
  opening_shift h f c

theorem mor_le (h : Nat) (f : List Rat) : LeL (mor h f) f := Lemmas.mor_le h f
theorem mor_shift (h : Nat) (f : List Rat) (c : Rat) : mor h (f.map (· + c)) = (mor h f).map (· + c) :=
  Lemmas.mor_shift h f c

/-- every imor iterate (hence the returned one, whatever max_iter/tol) is at or below the data -/
theorem imor_le (h : Nat) (y : List Rat) (k : Nat) : LeL (imorIter h y k) y := Lemmas.imor_le h y k

/-- snip without smoothing, this theorem and the next: for EVERY padding of width M = max half window, every filter
order, per-side windows and both window orders, the result drops the 2·M padded points (so it has the data's length)
and is ≤ the data -/
theorem snip_length (order hwL hwR : Nat) (dec : Bool) (padded : List Rat) :
    (snipCore order hwL hwR dec padded).length = padded.length - 2 * max hwL hwR := by
  unfold snipCore
  simp only [List.length_take, List.length_drop, snipFold_length]
  omega
theorem snip_le (order hwL hwR : Nat) (dec : Bool) (pl data pr : List Rat)
    (hl : pl.length = max hwL hwR) (hr : pr.length = max hwL hwR) :
    LeL (snipCore order hwL hwR dec (pl ++ data ++ pr)) data := by
  have h := (snipFold_le order hwL hwR (snipSchedule (max hwL hwR) dec) (pl ++ data ++ pr)).drop_take (max hwL hwR)
    ((pl ++ data ++ pr).length - 2 * max hwL hwR)
  have e : ((pl ++ data ++ pr).drop (max hwL hwR)).take ((pl ++ data ++ pr).length - 2 * max hwL hwR) = data := by
    rw [List.append_assoc, ← hl, List.drop_left, List.length_append, List.length_append,
      show pl.length + (data.length + pr.length) - 2 * pl.length = data.length by omega, List.take_left]
  rw [e] at h
  unfold snipCore
  simp only [snipFold_length]
  exact h
/-- … and commutes with shifts of the (padded) data: each filter's coefficients sum to one -/
theorem snip_shift (order hwL hwR : Nat) (dec : Bool) (padded : List Rat) (c : Rat) :
    snipCore order hwL hwR dec (padded.map (· + c)) = (snipCore order hwL hwR dec padded).map (· + c) := by
  unfold snipCore
  simp only [snipFold_shift, List.length_map, List.map_take, List.map_drop]

/-- non-vacuity: concrete signals, the first with a window longer than the data -/
example : tophat 3 [3, 1, 4] = [1, 1, 1] ∧ mor 1 [3, 1, 4, 1, 5] = [1, 1, 1, 1, 1] := by decide +kernel
example : snipCore 4 2 2 false [5, 5, 5, 7, 9, 6, 5, 5, 5] = [5, 7, 7, 6, 5] := by decide +kernel

/-! ### 2-D: `pybaselines/two_d/morphological.py` (`tophat`, `mor`, `imor`, `_avg_opening`)
`scipy.ndimage.grey_erosion/grey_dilation/grey_opening(y, 2*half_wind + 1)` with a 2-D size: a flat (2hr+1)×(2hc+1) window,
`mode='reflect'` on both axes; model `erode2d/dilate2d/opening2d hr hc` = a pass along the rows (`hc`), then one down the
columns (`hr`).  A matrix is a list of rows; `∀ row ∈ m, row.length = N`, `0 < m.length`, `0 < N` say that it is an M×N array
with M, N ≥ 1, as a 2-D NumPy array is (needed: see the `example` on a ragged list below).
Every shape and every pair of half windows is covered, equal or not, also windows longer than an axis.
`LeM a b`: same number of rows and `LeL` row by row; `shiftM c m` = `m + c`; `ext2 m` = the doubly reflected extension. -/

theorem transpose_transpose (m : List (List Rat)) (N : Nat) (hrect : ∀ row ∈ m, row.length = N)
    (hM : 0 < m.length) (hN : 0 < N) : transpose (transpose m) = m :=
  Lemmas.transpose_transpose ⟨rfl, hrect⟩ hM hN
theorem transpose_shape (m : List (List Rat)) (N : Nat) (hrect : ∀ row ∈ m, row.length = N) (hM : 0 < m.length) :
    (transpose m).length = N ∧ ∀ row ∈ transpose m, row.length = m.length :=
  rect_transpose ⟨rfl, hrect⟩ hM

theorem erode2d_shape (hr hc : Nat) (m : List (List Rat)) (N : Nat) (hrect : ∀ row ∈ m, row.length = N)
    (hM : 0 < m.length) (hN : 0 < N) :
    (erode2d hr hc m).length = m.length ∧ ∀ row ∈ erode2d hr hc m, row.length = N :=
  (lifts2_erode2d hr hc).rect ⟨rfl, hrect⟩ hM hN
theorem dilate2d_shape (hr hc : Nat) (m : List (List Rat)) (N : Nat) (hrect : ∀ row ∈ m, row.length = N)
    (hM : 0 < m.length) (hN : 0 < N) :
    (dilate2d hr hc m).length = m.length ∧ ∀ row ∈ dilate2d hr hc m, row.length = N :=
  (lifts2_dilate2d hr hc).rect ⟨rfl, hrect⟩ hM hN
theorem opening2d_shape (hr hc : Nat) (m : List (List Rat)) (N : Nat) (hrect : ∀ row ∈ m, row.length = N)
    (hM : 0 < m.length) (hN : 0 < N) :
    (opening2d hr hc m).length = m.length ∧ ∀ row ∈ opening2d hr hc m, row.length = N :=
  (lifts2_opening2d hr hc).rect ⟨rfl, hrect⟩ hM hN
theorem mor2d_shape (hr hc : Nat) (m : List (List Rat)) (N : Nat) (hrect : ∀ row ∈ m, row.length = N)
    (hM : 0 < m.length) (hN : 0 < N) :
    (mor2d hr hc m).length = m.length ∧ ∀ row ∈ mor2d hr hc m, row.length = N :=
  let ⟨_, h⟩ := lifts2_mor2d hr hc
  h.rect ⟨rfl, hrect⟩ hM hN
theorem imor2d_shape (hr hc : Nat) (m : List (List Rat)) (N : Nat) (hrect : ∀ row ∈ m, row.length = N)
    (hM : 0 < m.length) (hN : 0 < N) (k : Nat) :
    (imorIter2d hr hc m k).length = m.length ∧ ∀ row ∈ imorIter2d hr hc m k, row.length = N :=
  rect_imorIter2d hr hc ⟨rfl, hrect⟩ hM hN k

/-- on the doubly reflected extension `erode2d` is THE minimum over the (2hr+1)×(2hc+1) rectangle centred at (i, j), a lower
bound of its cells and the greatest one, for all integer (i, j): reflection commutes with the 2-D erosion; dually for `dilate2d` -/
theorem erode2d_rect_min (hr hc : Nat) (m : List (List Rat)) (N : Nat) (hrect : ∀ row ∈ m, row.length = N)
    (hM : 0 < m.length) (hN : 0 < N) (i j : Int) :
    (∀ a b : Int, -(hr:Int) ≤ a → a ≤ hr → -(hc:Int) ≤ b → b ≤ hc → ext2 (erode2d hr hc m) i j ≤ ext2 m (i + a) (j + b)) ∧
    (∀ c : Rat, (∀ a b : Int, -(hr:Int) ≤ a → a ≤ hr → -(hc:Int) ≤ b → b ≤ hc → c ≤ ext2 m (i + a) (j + b)) →
      c ≤ ext2 (erode2d hr hc m) i j) := by
  rw [(lifts2_erode2d hr hc).ext2 ⟨rfl, hrect⟩ hM hN]
  exact ⟨(W2_iff_offsets dirMin).mp Rat.le_refl, fun _ => (W2_iff_offsets dirMin).mpr⟩
theorem dilate2d_rect_max (hr hc : Nat) (m : List (List Rat)) (N : Nat) (hrect : ∀ row ∈ m, row.length = N)
    (hM : 0 < m.length) (hN : 0 < N) (i j : Int) :
    (∀ a b : Int, -(hr:Int) ≤ a → a ≤ hr → -(hc:Int) ≤ b → b ≤ hc → ext2 m (i + a) (j + b) ≤ ext2 (dilate2d hr hc m) i j) ∧
    (∀ c : Rat, (∀ a b : Int, -(hr:Int) ≤ a → a ≤ hr → -(hc:Int) ≤ b → b ≤ hc → ext2 m (i + a) (j + b) ≤ c) →
      ext2 (dilate2d hr hc m) i j ≤ c) := by
  rw [(lifts2_dilate2d hr hc).ext2 ⟨rfl, hrect⟩ hM hN]
  exact ⟨(W2_iff_offsets dirMax).mp Rat.le_refl, fun _ => (W2_iff_offsets dirMax).mpr⟩

/-- on the index range the extension is the matrix, so the two theorems above speak about its entries -/
theorem ext2_entry (m : List (List Rat)) (N : Nat) (hrect : ∀ row ∈ m, row.length = N) (i j : Nat)
    (hi : i < m.length) (hj : j < N) : ext2 m (i : Int) (j : Int) = (m.getD i []).getD j 0 :=
  ext2_of_lt ⟨rfl, hrect⟩ i j hi hj

theorem tophat2d_le (hr hc : Nat) (m : List (List Rat)) (N : Nat) (hrect : ∀ row ∈ m, row.length = N)
    (hM : 0 < m.length) (hN : 0 < N) : LeM (opening2d hr hc m) m :=
  opening2d_le hr hc ⟨rfl, hrect⟩ hM hN
theorem tophat2d_idem (hr hc : Nat) (m : List (List Rat)) (N : Nat) (hrect : ∀ row ∈ m, row.length = N)
    (hM : 0 < m.length) (hN : 0 < N) : opening2d hr hc (opening2d hr hc m) = opening2d hr hc m := by
  have h := lifts2_opening2d hr hc
  have hO := h.rect ⟨rfl, hrect⟩ hM hN
  apply rect_ext (h.rect hO hM hN) hO
  rw [h.ext2 hO hM hN, h.ext2 ⟨rfl, hrect⟩ hM hN, W2_erode_opening]
theorem tophat2d_shift (hr hc : Nat) (m : List (List Rat)) (N : Nat) (c : Rat) (hrect : ∀ row ∈ m, row.length = N)
    (hM : 0 < m.length) (hN : 0 < N) : opening2d hr hc (shiftM c m) = shiftM c (opening2d hr hc m) :=
  (lifts2_opening2d hr hc).shift c ⟨rfl, hrect⟩ hM hN

/-- 2-D mor = `np.minimum(opening, _avg_opening(y, half_wind, opening))` is at or below the data -/
theorem mor2d_le (hr hc : Nat) (m : List (List Rat)) (N : Nat) (hrect : ∀ row ∈ m, row.length = N)
    (hM : 0 < m.length) (hN : 0 < N) : LeM (mor2d hr hc m) m :=
  Lemmas.mor2d_le hr hc ⟨rfl, hrect⟩ hM hN
theorem mor2d_shift (hr hc : Nat) (m : List (List Rat)) (N : Nat) (c : Rat) (hrect : ∀ row ∈ m, row.length = N)
    (hM : 0 < m.length) (hN : 0 < N) : mor2d hr hc (shiftM c m) = shiftM c (mor2d hr hc m) :=
  Lemmas.mor2d_shift hr hc c ⟨rfl, hrect⟩ hM hN

/-- every 2-D imor iterate `np.minimum(y, _avg_opening(baseline, half_wind))` (hence the returned one, whatever
max_iter/tol) is at or below the data -/
theorem imor2d_le (hr hc : Nat) (m : List (List Rat)) (N : Nat) (hrect : ∀ row ∈ m, row.length = N)
    (hM : 0 < m.length) (hN : 0 < N) (k : Nat) : LeM (imorIter2d hr hc m k) m :=
  Lemmas.imor2d_le hr hc ⟨rfl, hrect⟩ hM hN k

/-- non-vacuity: a 3×4 matrix with unequal windows, (1, 2): the row window 2·2+1 = 5 longer than the 4 columns; (2, 1): the
column window longer than the 3 rows; (1, 0), (0, 1): a single pass.  The hypotheses hold, the baselines are not the data,
`mor` and `imor` produce values that are not entries of the data -/
example : (∀ row ∈ [[3, 1, 4, 1], [5, 9, 7, 6], [5, 8, 9, 8]], row.length = 4) ∧
    0 < [[(3 : Rat), 1, 4, 1], [5, 9, 7, 6], [5, 8, 9, 8]].length := by decide
example : opening2d 1 2 [[3, 1, 4, 1], [5, 9, 7, 6], [5, 8, 9, 8]] = [[1, 1, 1, 1], [5, 6, 6, 6], [5, 6, 6, 6]] ∧
    erode2d 1 2 [[3, 1, 4, 1], [5, 9, 7, 6], [5, 8, 9, 8]] = [[1, 1, 1, 1], [1, 1, 1, 1], [5, 5, 5, 6]] ∧
    opening2d 2 1 [[3, 1, 4, 1], [5, 9, 7, 6], [5, 8, 9, 8]] = [[1, 1, 1, 1], [1, 1, 1, 1], [1, 1, 1, 1]] ∧
    opening2d 1 0 [[3, 1, 4, 1], [5, 9, 2, 6], [5, 3, 5, 8]] = [[3, 1, 2, 1], [5, 3, 2, 6], [5, 3, 2, 6]] ∧
    opening2d 0 1 [[3, 1, 4, 1], [5, 9, 2, 6], [5, 3, 5, 8]] = [[1, 1, 1, 1], [5, 5, 2, 2], [3, 3, 5, 5]] := by
  decide +kernel
example : mor2d 1 2 [[3, 1, 4, 1], [5, 9, 7, 6], [5, 8, 9, 8]] = [[1, 1, 1, 1], [7/2, 7/2, 7/2, 7/2], [5, 11/2, 11/2, 6]] ∧
    imorIter2d 1 2 [[3, 1, 4, 1], [5, 9, 7, 6], [5, 8, 9, 8]] 2
      = [[9/4, 1, 9/4, 1], [9/4, 9/4, 9/4, 9/4], [7/2, 7/2, 7/2, 7/2]] := by decide +kernel
example : opening2d 1 2 (shiftM 7 [[3, 1, 4, 1], [5, 9, 7, 6], [5, 8, 9, 8]]) = [[8, 8, 8, 8], [12, 13, 13, 13], [12, 13, 13, 13]] ∧
    transpose [[3, 1, 4, 1], [5, 9, 7, 6], [5, 8, 9, 8]] = [[3, 5, 5], [1, 9, 8], [4, 7, 9], [1, 6, 8]] := by decide +kernel

/-- the shape hypotheses are needed: on a ragged list the model's `transpose` pads with `getD`'s default, so the result
has not the shape of the input and `LeM` fails; a column-less list loses its rows -/
example : opening2d 0 0 [[1, 2], [3]] = [[1, 2], [3, 0]] ∧ opening2d 1 1 [[], []] = [] := by decide +kernel

/-- a row dilation and a column erosion do NOT commute, so the 2-D laws are not the 1-D laws applied axis by axis: the
proofs read the two passes of an erosion, or of a dilation, as one minimum / maximum over the rectangle -/
example : rowsThenCols (erode 1) (dilate 1) [[0, 1], [1, 0]] = [[1, 1], [1, 1]] ∧
    ((transpose [[0, 1], [1, 0]]).map (erode 1) |> transpose).map (dilate 1) = [[0, 0], [0, 0]] := by decide +kernel

/-! ### rubberband without smoothing = THE lower convex hull
`pybaselines/classification.py:_Classification.rubberband` (`lam` None/0): Qhull's vertices become `mask`, the
baseline is `np.interp(x, x[mask], y[mask])` = `hullInterp pts mask` with `pts = zip x y`.  Qhull is a black box;
the harness evaluates `isLowerHull pts mask` on every real output, and these theorems say what an accepted
certificate implies.  `XInc pts` (x strictly increasing) is the code's guard `require_unique_x=True` after the
wrapper's sort; `px pts i`/`py pts i` are the coordinates of the i-th point. -/

/-- certificate accepted ⇒ the baseline has the data's length, is (a) at or below the data everywhere, (b) equal
to the data at every masked vertex (this clause holds for every mask, certified or not), and (c) convex: for every
triple i<j<k of the grid the middle value lies on or below the chord of the outer two -/
theorem lowerHull_cert_sound (pts : List (Rat × Rat)) (mask : List Bool) (hx : XInc pts)
    (hc : isLowerHull pts mask = true) :
    (hullInterp pts mask).length = pts.length ∧
    (∀ i, i < pts.length → (hullInterp pts mask).getD i 0 ≤ py pts i) ∧
    (∀ i, i < pts.length → mask.getD i false = true → (hullInterp pts mask).getD i 0 = py pts i) ∧
    (∀ i j k, i < j → j < k → k < pts.length →
      (px pts k - px pts i) * (hullInterp pts mask).getD j 0
        ≤ (px pts k - px pts j) * (hullInterp pts mask).getD i 0 + (px pts j - px pts i) * (hullInterp pts mask).getD k 0) :=
  ⟨hullInterp_length pts mask, fun _ hi => chain_le (Chain.of_isLowerHull pts mask hx hc) (Interp.of_hullInterp pts mask hx) hi,
    fun _ hi hm => hullInterp_vertex pts mask hx hi hm, chain_convex (Chain.of_isLowerHull pts mask hx hc) (Interp.of_hullInterp pts mask hx)⟩

/-- (c) in slope form: the slope from i to j never exceeds the slope from j to k -/
theorem lowerHull_slopes_mono (pts : List (Rat × Rat)) (mask : List Bool) (hx : XInc pts)
    (hc : isLowerHull pts mask = true) (i j k : Nat) (hij : i < j) (hjk : j < k) (hk : k < pts.length) :
    ((hullInterp pts mask).getD j 0 - (hullInterp pts mask).getD i 0) / (px pts j - px pts i)
      ≤ ((hullInterp pts mask).getD k 0 - (hullInterp pts mask).getD j 0) / (px pts k - px pts j) :=
  (convex3_slopes (g := fun i => (hullInterp pts mask).getD i 0) (XInc.grid hx i j hij (by omega)) (XInc.grid hx j k hjk hk)).mp
    (chain_convex (Chain.of_isLowerHull pts mask hx hc) (Interp.of_hullInterp pts mask hx) i j k hij hjk hk)

/-- the certified baseline is the GREATEST convex minorant of the data on the grid: every `g` that is convex
(three-point inequality for all i<j<k, `Convex3`) and at or below the data is at or below the baseline -/
theorem lowerHull_greatest (pts : List (Rat × Rat)) (mask : List Bool) (hx : XInc pts)
    (hc : isLowerHull pts mask = true) (g : Nat → Rat) (hg : Convex3 pts g)
    (hle : ∀ i, i < pts.length → g i ≤ py pts i) :
    ∀ i, i < pts.length → g i ≤ (hullInterp pts mask).getD i 0 :=
  fun _ hi => chain_greatest (Chain.of_isLowerHull pts mask hx hc) (Interp.of_hullInterp pts mask hx) hg hle hi

/-- hence "the" lower convex hull: two masks that both pass the certificate (they may differ in collinear points)
give the same baseline -/
theorem lowerHull_unique (pts : List (Rat × Rat)) (m1 m2 : List Bool) (hx : XInc pts)
    (h1 : isLowerHull pts m1 = true) (h2 : isLowerHull pts m2 = true) : hullInterp pts m1 = hullInterp pts m2 :=
  ext_getD 0 ((hullInterp_length pts m1).trans (hullInterp_length pts m2).symm) fun _ hi =>
    chain_unique (Chain.of_isLowerHull pts m1 hx h1) (Interp.of_hullInterp pts m1 hx) (Chain.of_isLowerHull pts m2 hx h2)
      (Interp.of_hullInterp pts m2 hx) (hullInterp_length pts m1 ▸ hi)

/-- adding a constant to the data: the certificate accepts exactly the same masks, and the baseline moves by the
constant (guard of the real code: `np.interp` raises on an empty `x[mask]`, so at least one masked point) -/
theorem lowerHull_shift (c : Rat) (pts : List (Rat × Rat)) (mask : List Bool) :
    isLowerHull (shiftPts c pts) mask = isLowerHull pts mask ∧
    ((∃ i, i < pts.length ∧ mask.getD i false = true) →
      hullInterp (shiftPts c pts) mask = (hullInterp pts mask).map (· + c)) :=
  ⟨isLowerHull_shift c pts mask, hullInterp_shift c pts mask⟩

/-- non-vacuity: a five-point hull with one point strictly above it (the interpolated value 1/3 is not a datum);
a mask that skips the lowest point is rejected -/
example : XInc [(0, 2), (1, 0), (2, 3), (4, 1), (5, 4)] := by unfold XInc; decide +kernel
example : isLowerHull [(0, 2), (1, 0), (2, 3), (4, 1), (5, 4)] [true, true, false, true, true] = true ∧
    hullInterp [(0, 2), (1, 0), (2, 3), (4, 1), (5, 4)] [true, true, false, true, true] = [2, 0, 1/3, 1, 4] ∧
    isLowerHull [(0, 2), (1, 0), (2, 3), (4, 1), (5, 4)] [true, false, false, false, true] = false ∧
    isLowerHull [(0, 2), (1, 0), (2, 3), (4, 1), (5, 4)] [true, true, true, true, true] = false := by decide +kernel

/-- a convex minorant strictly below the hull somewhere: the hypothesis of `lowerHull_greatest` is satisfiable by
something other than the hull itself -/
example : Convex3 [(0, 2), (1, 0), (2, 3), (4, 1), (5, 4)] (fun i => [2, 0, 0, 0, 0].getD i 0) ∧
    (∀ i, i < 5 → (fun i => [2, 0, 0, 0, 0].getD i 0) i ≤ py [(0, 2), (1, 0), (2, 3), (4, 1), (5, 4)] i) := by
  constructor
  · intro i j k hij hjk hk
    exact (by decide +kernel : ∀ k, k < 5 → ∀ j, j < k → ∀ i, i < j →
      (px [(0, 2), (1, 0), (2, 3), (4, 1), (5, 4)] k - px [(0, 2), (1, 0), (2, 3), (4, 1), (5, 4)] i) * [2, 0, 0, 0, 0].getD j 0
        ≤ (px [(0, 2), (1, 0), (2, 3), (4, 1), (5, 4)] k - px [(0, 2), (1, 0), (2, 3), (4, 1), (5, 4)] j) * [2, 0, 0, 0, 0].getD i 0
          + (px [(0, 2), (1, 0), (2, 3), (4, 1), (5, 4)] j - px [(0, 2), (1, 0), (2, 3), (4, 1), (5, 4)] i) * [2, 0, 0, 0, 0].getD k 0)
      k hk j hjk i hij
  · decide +kernel

/-- two different accepted masks (a collinear point kept or dropped) with the same baseline -/
example : isLowerHull [(0, 0), (1, 1), (2, 2), (3, 5)] [true, false, true, true] = true ∧
    isLowerHull [(0, 0), (1, 1), (2, 2), (3, 5)] [true, true, true, true] = true ∧
    hullInterp [(0, 0), (1, 1), (2, 2), (3, 5)] [true, false, true, true] = [0, 1, 2, 5] ∧
    hullInterp [(0, 0), (1, 1), (2, 2), (3, 5)] [true, true, true, true] = [0, 1, 2, 5] := by decide +kernel
example : hullInterp (shiftPts 7 [(0, 2), (1, 0), (2, 3), (4, 1), (5, 4)]) [true, true, false, true, true]
    = [9, 7, 22/3, 8, 11] := by decide +kernel

/-- the guard of the shift law is needed only because the model totalises `np.interp` on an empty sample list -/
example : hullInterp (shiftPts 7 [(0, 2)]) [false] ≠ (hullInterp [(0, 2)] [false]).map (· + 7) := by decide +kernel

/-- `segments`: `rubberband` takes the hull of each segment separately, marks all their vertices in ONE mask and calls
`np.interp` once over the whole mask.  The last point of a segment and the first point of the next are hull vertices
(the certificate demands both ends), so the baseline is the concatenation of the per-segment interpolants, each of which
the theorems above describe.  Two segments; any number follows by repeating the split. -/
theorem rubberband_segments_interp (A B : List (Rat × Rat)) (mA mB : List Bool) (hx : XInc (A ++ B))
    (hlen : mA.length = A.length) (hA : 0 < A.length) (hlastA : mA.getD (A.length - 1) false = true)
    (hB : 0 < B.length) (hfirstB : mB.getD 0 false = true) :
    hullInterp (A ++ B) (mA ++ mB) = hullInterp A mA ++ hullInterp B mB := by
  have hs : XInc (chainOf A mA ++ chainOf B mB) := by
    rw [← chainOf_append A B mA mB hlen]; exact chainOf_xinc hx _
  have hwA : A.getD (A.length - 1) (0, 0) ∈ chainOf A mA := mem_chainOf (by omega) hlastA
  have hwB : B.getD 0 (0, 0) ∈ chainOf B mB := mem_chainOf hB hfirstB
  rw [hullInterp_eq, hullInterp_eq, hullInterp_eq, chainOf_append A B mA mB hlen, List.map_append]
  congr 1
  · exact List.map_congr_left fun p hp =>
      interp1_append_left _ _ hs _ ⟨_, hwA, XInc.le_last (List.pairwise_append.mp hx).1 hp⟩
  · exact List.map_congr_left fun p hp =>
      interp1_append_right _ _ hs _ ⟨_, hwB, XInc.head_le (List.pairwise_append.mp hx).2.1 hp⟩
/-- non-vacuity: each segment's mask is certified, the joint mask is not (the certificate is per segment) -/
example : isLowerHull [(0, 2), (1, 0), (2, 3)] [true, true, true] = true ∧
    isLowerHull [(4, 1), (5, 4), (6, 3)] [true, false, true] = true ∧
    hullInterp ([(0, 2), (1, 0), (2, 3)] ++ [(4, 1), (5, 4), (6, 3)]) ([true, true, true] ++ [true, false, true])
      = [2, 0, 3, 1, 2, 3] ∧
    isLowerHull ([(0, 2), (1, 0), (2, 3)] ++ [(4, 1), (5, 4), (6, 3)]) ([true, true, true] ++ [true, false, true]) = false := by
  decide +kernel

end PbVerif.C14
