import PbVerif.Lemmas.BSpline
import PbVerif.Lemmas.BSplineAffine
import PbVerif.Lemmas.Interp
/-! C12 — the spline design matrix is the B-spline basis; its normal equations are exact. -/
namespace PbVerif.C12
open PbVerif.BSpline PbVerif.Lemmas

/-- `__make_design_matrix`: every row has `degree + 1` entries, in consecutive columns `left − degree … left` inside the matrix
(CSR data of length `N·(degree + 1)`) -/
theorem csr_shape (knots : List Rat) (deg : Nat) (xs : List Rat) (h : deg < knots.length - (deg + 1)) :
    RowsWf deg (knots.length - (deg + 1)) (designRows knots deg xs) ∧ (designRows knots deg xs).length = xs.length :=
  designRows_wf knots deg xs h

/-- `_de_boor`: the entries are non-negative and sum to one (partition of unity), for every degree, every non-decreasing knot
vector and every x in a non-degenerate knot interval -/
theorem deBoor_nonneg (knots : List Rat) (x : Rat) (deg left : Nat) (h : InInterval knots x left)
    (hd : deg ≤ left) (hk : left + deg < knots.length) : ∀ v ∈ deBoor knots x deg left, 0 ≤ v :=
  Lemmas.deBoor_nonneg knots x deg left h hd hk
theorem deBoor_sum_one (knots : List Rat) (x : Rat) (deg left : Nat) (h : InInterval knots x left)
    (hd : deg ≤ left) (hk : left + deg < knots.length) : (deBoor knots x deg left).sum = 1 :=
  Lemmas.deBoor_sum_one knots x deg left h hd hk

/-- the entries are the values of the B-spline basis functions defined by the Cox–de Boor recursion -/
theorem deBoor_eq_coxDeBoor (knots : List Rat) (x : Rat) (deg left : Nat) (h : InInterval knots x left)
    (hx : x < knots.getD (left + 1) 0) (hd : deg ≤ left) (hk : left + deg < knots.length) (j : Nat) (hj : j ≤ deg) :
    (deBoor knots x deg left).getD j 0 = cox knots deg (left - deg + j) x :=
  deBoorUpTo_eq_cox knots x left (left - deg) deg h.sorted h.lo hx (Nat.sub_add_cancel hd) hk j hj

/-- `_find_interval` brackets every x at or right of the first inner knot, whatever interval the previous point gave (repeated,
clustered, decreasing x). `hs`, `hlen` describe the knot vector the callers pass; the bracketing holds without them. -/
theorem findInterval_spec (knots : List Rat) (deg nb : Nat) (x : Rat) (lastLeft : Nat)
    (hs : knots.Pairwise (· ≤ ·)) (hlen : knots.length = nb + deg + 1) (hd : deg < nb)
    (hlo : knots.getD deg 0 ≤ x) :
    let r := findInterval knots deg x lastLeft nb
    deg ≤ r ∧ r < nb ∧ knots.getD r 0 ≤ x ∧ (x < knots.getD (r + 1) 0 ∨ r + 1 = nb) :=
  Lemmas.findInterval_spec knots deg nb x lastLeft hs hlen hd hlo

/-- `_numba_btb_bty`: the banded `B'WB` and `B'Wy` equal the explicit products for every weight vector, zeros included. `hy`, `hw`:
one `y` and one weight per row, as in the code; `bty_eq` holds without them, both sides pairing rows, `y` and `w` the same way. -/
theorem btb_eq (deg nb : Nat) (rows : List Row) (ys ws : List Rat) (h : RowsWf deg nb rows)
    (hy : ys.length = rows.length) (hw : ws.length = rows.length) (r c : Nat) (hr : r ≤ deg) (hc : c + r < nb) :
    ((btbBty deg nb rows ys ws).1.getD r []).getD c 0 = btbSpec deg rows ws r c :=
  Lemmas.btb_eq deg nb rows ys ws h hy hw r c hr hc
theorem bty_eq (deg nb : Nat) (rows : List Row) (ys ws : List Rat) (h : RowsWf deg nb rows)
    (hy : ys.length = rows.length) (hw : ws.length = rows.length) (c : Nat) (hc : c < nb) :
    (btbBty deg nb rows ys ws).2.getD c 0 = btySpec deg rows ys ws c :=
  Lemmas.bty_eq deg nb rows ys ws h hy hw c hc

/-- `_spline_knots` returns `num_knots + 2·degree` knots, `_basis_midpoints` on them one point per basis function -/
theorem splineKnots_length (a b : Rat) (nk deg : Nat) : (splineKnots a b nk deg).length = nk + 2 * deg :=
  Lemmas.splineKnots_length a b nk deg
theorem basisMidpoints_count (numKnots deg : Nat) (h : 2 ≤ numKnots) :
    basisMidpointsCount (numKnots + 2 * deg) deg = numKnots + deg - 1 := basisMidpointsCount_eq numKnots deg

/-- non-vacuity: quadratic basis on knots -1,-1/2,…,2 at x = 1/4 -/
example : deBoor (splineKnots 0 1 3 2) (1/4) 2 2 = [1/8, 3/4, 1/8] ∧
    InInterval (splineKnots 0 1 3 2) (1/4) 2 := by
  refine ⟨by decide +kernel, ⟨by decide +kernel, by decide +kernel, by decide +kernel, by decide +kernel, by decide +kernel⟩⟩

/-! ### invariance under the magnitude of the x-axis

`t ↦ a·t + b`, `a > 0`, applied to the abscissae and the knot vector changes nothing: `_find_interval` only compares x with
knots, `_de_boor` only forms ratios `(x − knot)/(knot − knot)`, `_spline_knots` builds the knots from `min`, `max` and their
difference. An absolute tolerance anywhere in these (`isclose(left_knot, right_knot)` for `==`) contradicts the statements below
at small `a`. -/

/-- `_de_boor`, for any `a ≠ 0`: the branch `left_knot == right_knot` is taken for the mapped knots exactly when it is for the
original ones. `hd`, `hk`: the knot indices read are in range. -/
theorem deBoor_affine_invariant (a b : Rat) (ha : a ≠ 0) (knots : List Rat) (x : Rat) (deg left : Nat)
    (hd : deg ≤ left) (hk : left + deg < knots.length) :
    deBoor (knots.map (fun t => a * t + b)) (a * x + b) deg left = deBoor knots x deg left :=
  Affine.deBoorUpTo_aff a b ha knots x left deg hk

/-- `_find_interval`, for every starting guess `lastLeft`; `a > 0` as the map must preserve `<`, `hlen` as in `__make_design_matrix` -/
theorem findInterval_affine_invariant (a b : Rat) (ha : 0 < a) (knots : List Rat) (deg : Nat) (x : Rat)
    (lastLeft nb : Nat) (hd : deg < nb) (hlen : knots.length = nb + deg + 1) :
    findInterval (knots.map (fun t => a * t + b)) deg (a * x + b) lastLeft nb = findInterval knots deg x lastLeft nb :=
  Affine.findInterval_map _ (Affine.aff_lt a b ha) knots deg x lastLeft nb hd (by omega)

/-- `__make_design_matrix`: interval indices and values of every row -/
theorem designRows_affine_invariant (a b : Rat) (ha : 0 < a) (knots : List Rat) (deg : Nat) (xs : List Rat)
    (h : deg < knots.length - (deg + 1)) :
    designRows (knots.map (fun t => a * t + b)) deg (xs.map (fun t => a * t + b)) = designRows knots deg xs :=
  Affine.designRows_aff a b ha knots deg xs h

/-- `_spline_knots(…, penalized=True)` commutes with the map (`hnk`: the code raises `ValueError` otherwise); `xKnots_affine`: the
extremes of `a·x + b` are the images of the extremes of `x` for `a > 0` -/
theorem splineKnots_affine (a b xmin xmax : Rat) (nk deg : Nat) (hnk : 2 ≤ nk) :
    splineKnots (a * xmin + b) (a * xmax + b) nk deg = (splineKnots xmin xmax nk deg).map (fun t => a * t + b) :=
  Affine.splineKnots_aff a b xmin xmax nk deg
theorem xKnots_affine (a b : Rat) (ha : 0 < a) (xs : List Rat) (hx : xs ≠ []) (nk deg : Nat) (hnk : 2 ≤ nk) :
    xKnots (xs.map (fun t => a * t + b)) nk deg = (xKnots xs nk deg).map (fun t => a * t + b) :=
  Affine.xKnots_aff a b ha xs hx nk deg

/-- the P-spline basis does not depend on the magnitude of x: knots built from `a·x + b`, basis evaluated at `a·x + b`, the same
matrix as for `x`; hence the same `B'WB` and `B'Wy` for all data and weights -/
theorem basis_magnitude_free (a b : Rat) (ha : 0 < a) (xs : List Rat) (hx : xs ≠ []) (nk deg : Nat) (hnk : 2 ≤ nk) :
    pSplineBasis (xs.map (fun t => a * t + b)) nk deg = pSplineBasis xs nk deg :=
  Affine.pSplineBasis_aff a b ha xs hx nk deg hnk
theorem normal_equations_magnitude_free (a b : Rat) (ha : 0 < a) (xs : List Rat) (hx : xs ≠ []) (nk deg : Nat)
    (hnk : 2 ≤ nk) (nb : Nat) (ys ws : List Rat) :
    btbBty deg nb (pSplineBasis (xs.map (fun t => a * t + b)) nk deg) ys ws =
      btbBty deg nb (pSplineBasis xs nk deg) ys ws := by
  rw [basis_magnitude_free a b ha xs hx nk deg hnk]

/-- non-vacuity: `a = 10⁻³⁰, b = 0` and `a = 1, b = 1.7·10⁹`; the common value is a genuine basis (second row), the knots really move -/
example :
    (pSplineBasis ([0, 1/3, 1/2, 7/10, 9/10, 1].map (fun t => (1 / 1000000000000000000000000000000 : Rat) * t + 0)) 3 2).map
        (fun r => (r.left, r.vals)) = (pSplineBasis [0, 1/3, 1/2, 7/10, 9/10, 1] 3 2).map (fun r => (r.left, r.vals)) ∧
    (pSplineBasis ([0, 1/3, 1/2, 7/10, 9/10, 1].map (fun t => 1 * t + 1700000000)) 3 2).map
        (fun r => (r.left, r.vals)) = (pSplineBasis [0, 1/3, 1/2, 7/10, 9/10, 1] 3 2).map (fun r => (r.left, r.vals)) ∧
    ((pSplineBasis [0, 1/3, 1/2, 7/10, 9/10, 1] 3 2).map (fun r => (r.left, r.vals))).getD 1 (0, []) = (2, [1/18, 13/18, 2/9]) ∧
    xKnots ([0, 1/3, 1/2, 7/10, 9/10, 1].map (fun t => 1 * t + 1700000000)) 3 2 =
      [1699999999, 3399999999/2, 1700000000, 3400000001/2, 1700000001, 3400000003/2, 1700000002] := by
  decide +kernel

/-- a degenerate (repeated-knot) interval: the `left_knot == right_knot` branch is taken on both sides -/
example : deBoor ([0, 0, 0, 1, 1, 1].map (fun t => (1 / 1000000000000000000000000000000 : Rat) * t + 5)) ((1 / 1000000000000000000000000000000 : Rat) * (1/4) + 5) 2 2 =
    deBoor [0, 0, 0, 1, 1, 1] (1/4) 2 2 ∧ deBoor [0, 0, 0, 1, 1, 1] (1/4) 2 2 = [9/16, 3/8, 1/16] := by decide +kernel

end PbVerif.C12
