import PbVerif.Lemmas.Banded
import PbVerif.Gen.Diags
/-! C11 — the difference-penalty matrix and its banded layouts are exact for every size. `Gen.diff1/2/3` are regenerated
from `_banded_utils.py` on every run; the `decide` obligations below are therefore re-checked against what the source says
at that moment. -/
namespace PbVerif.C11
open PbVerif.Banded PbVerif.Lemmas

/-- (1) the coefficient loop of `difference_matrix` yields the signed binomials `coef d`, which are
the coefficients of the d-fold forward difference (`np.diff(np.eye(n), d, axis=0)`), for every d -/
theorem diffCoef_eq_signed_binom (d : Nat) : diffCoefCode d = (List.range (d+1)).map (coef d) := by
  unfold diffCoefCode
  rw [diffUnit_eq_iterEnt, show 2 * d + 1 = d + 1 + d by omega, diffIter_map d (d + 1) (iterEnt d) (iterEnt_step d)]
  apply List.map_congr_left
  intro p _
  exact iterEnt_of_add (Nat.add_comm p d)
theorem coef_is_iterated_difference (d : Nat) (f : Nat → Int) (k : Nat) :
    fdiffIter d f k = ((List.range (d+1)).map fun m => coef d m * f (k + m)).sum := by
  show _ = rsum (d+1) (fun m => coef d m * f (k + m))
  induction d generalizing f with
  | zero => simp [fdiffIter, rsum, coef]
  | succ d ih =>
    -- summation by parts turns the differences of `f` into the differences of `coef d`, which are `coef (d+1)`; `coef d (d+1) = 0`
    -- removes the boundary term
    rw [fdiffIter, ih (fdiff f), rsum_succ' (d+1)]
    refine (rsum_by_parts (d+1) (coef d) fun m => f (k + m)).trans ?_
    rw [coef_eq_zero d (d+1) (Nat.lt_succ_self d)]
    simp only [coef, Int.neg_mul]
    omega

/-- (2) the band specification used below is the dense `D'D`, which is symmetric and has bandwidth d -/
theorem spec_is_DtD (n d i t : Nat) (h : i + t < n) : dtdOff n d i t = DtD n d i (i + t) :=
  dtdOff_eq_DtD n d i t
theorem DtD_symmetric (n d i j : Nat) : DtD n d i j = DtD n d j i := DtD_symm n d i j
theorem DtD_banded (n d i j : Nat) (h : i + d < j) : DtD n d i j = 0 := DtD_band n d i j (Or.inl h)

/-- (3) an entry of a generated table at width n is the entry at any other width n' ≥ 2K+1 in the clamped column -/
theorem bandAt_clamp (K : Nat) (init : Int) (tbl : List Assign) (ht : tbl.all (Assign.boundedB K) = true)
    (rows n n' r c : Nat) (hn : 2 * K + 1 ≤ n) (hn' : 2 * K + 1 ≤ n') (hc : c < n) :
    bandAt init tbl rows n r c = bandAt init tbl rows n' r (clamp K n n' c) :=
  Lemmas.bandAt_clamp K init tbl ht rows n n' r c hn hn' hc

/-- (4) **the hard-coded bands are D'D for every N ≥ 2d+1, lower and full layout**: the kernel evaluates table and
specification at the one width `2d+1`, `table_eq_spec_of_mid` lifts that to every width -/
theorem diff1_bands_eq : ∀ n, 3 ≤ n → ∀ lo : Bool, Gen.diff1.toRows lo n = specRows n 1 lo :=
  table_eq_spec_of_mid Gen.diff1 1 (by decide) (by decide +kernel)
theorem diff2_bands_eq : ∀ n, 5 ≤ n → ∀ lo : Bool, Gen.diff2.toRows lo n = specRows n 2 lo :=
  table_eq_spec_of_mid Gen.diff2 2 (by decide) (by decide +kernel)
theorem diff3_bands_eq : ∀ n, 7 ≤ n → ∀ lo : Bool, Gen.diff3.toRows lo n = specRows n 3 lo :=
  table_eq_spec_of_mid Gen.diff3 3 (by decide) (by decide +kernel)

example : Gen.diff2.toRows true 7 = [[1, 5, 6, 6, 6, 5, 1], [-2, -4, -4, -4, -4, -2, 0], [1, 1, 1, 1, 1, 0, 0]] := by
  decide +kernel

/-- (5) padding adds only zero rows: below for lower storage, above and below for full storage -/
theorem padDiagonals_lower (ab : List (List Int)) (p : Nat) (n : Nat) (hp : 0 < p) :
    padDiagonals ab p true n = ab ++ List.replicate p (List.replicate n 0) := by
  simp [padDiagonals]
theorem padDiagonals_full (ab : List (List Int)) (p : Nat) (n : Nat) (hp : 0 < p) :
    padDiagonals ab p false n = List.replicate p (List.replicate n 0) ++ ab ++ List.replicate p (List.replicate n 0) := by
  simp [padDiagonals]; omega
theorem padDiagonals_nonpos (ab : List (List Int)) (p : Int) (lo : Bool) (n : Nat) (hp : p ≤ 0) :
    padDiagonals ab p lo n = ab := by
  simp [padDiagonals, hp]

/-- (6) layout conversions used by `reset_diagonals` are exact -/
theorem lowerToFull_spec (n d : Nat) : lowerToFull (specRows n d true) = specRows n d false :=
  Lemmas.lowerToFull_spec n d
theorem drop_full_eq_lower (n d : Nat) : (specRows n d false).drop d = specRows n d true :=
  Lemmas.drop_full_eq_lower n d

/-- (7) **a re-used penalized system equals a fresh one, for every history of reconfigurations**
(any sequence over diff_order, allow_lower, reverse_diags, allow_pentapy, padding; with or without
pentapy installed; every size) -/
theorem reset_eq_fresh (n : Nat) (hp : Bool) (cs : List Cfg) (c : Cfg) :
    reset (cs.foldl reset (initSys n hp)) c = fresh n hp c := Lemmas.reset_eq_fresh n hp cs c

/-- non-vacuity: a history passing through the lower∧reversed layout -/
example : (reset (reset (fresh 7 false ⟨2, true, some true, false, 0⟩) ⟨2, false, some false, true, 1⟩)
    ⟨2, true, none, true, 0⟩).orig = some (specRows 7 2 true) := by decide +kernel

end PbVerif.C11
