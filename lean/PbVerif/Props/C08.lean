import PbVerif.Lemmas.Poly2d
/-! C08 — polynomial baselines are least-squares polynomials with usable coefficients.
The coefficient transform to the user's domain (1-D and 2-D) evaluates identically, the normal equations characterise the
weighted least-squares polynomial, and the 2-D `max_cross` option keeps exactly the documented monomials, also in the
returned coefficients. -/
namespace PbVerif.C08
open PbVerif.Poly PbVerif.Poly2d PbVerif.Lemmas

/-- coefficients converted to the user's x domain evaluate to the fitted polynomial, for every domain, order and x -/
theorem convertCoef_eval (c : List Rat) (offset scale x : Rat) (hs : scale ≠ 0) :
    evalPoly (convertCoef c offset scale) x = evalPoly c ((x - offset) / scale) :=
  Lemmas.convertCoef_eval c offset scale x hs

/-- the special-cased `offset == 0` branch is the general formula -/
theorem convertCoef_offset_zero_branch (scale : Rat) (i j : Nat) :
    polyTransformAt 0 scale i j =
      if i ≤ j then (binom j i : Nat) * (1 / scale) ^ j * (-(0 : Rat)) ^ (j - i) else 0 := by
  rw [polyTransformAt_eq, binom_eq_choose]

/-- 2-D: `T_x C T_z'` evaluates on the user's `(x, z)` to what `C` gives on the mapped point (`C` rectangular) -/
theorem convertCoef2d_eval (c : List (List Rat)) (nz : Nat) (hrect : ∀ row ∈ c, row.length = nz)
    (ox sx oz sz x z : Rat) (hsx : sx ≠ 0) (hsz : sz ≠ 0) :
    evalPoly2 (convertCoef2d c ox sx oz sz) x z = evalPoly2 c ((x - ox) / sx) ((z - oz) / sz) :=
  Lemmas.convertCoef2d_eval c nz hrect ox sx oz sz x z hsx hsz

theorem mapparms_maps (o0 o1 n0 n1 : Rat) (h : o1 ≠ o0) :
    let p := mapparms o0 o1 n0 n1
    p.1 + p.2 * o0 = n0 ∧ p.1 + p.2 * o1 = n1 := by
  have h' : o1 - o0 ≠ 0 := sub_ne_zero.2 h
  simp only [mapparms]
  constructor <;> (rw [div_mul_eq_mul_div, ← add_div, div_eq_iff h']; ring)

/-- "the unique polynomial minimising the weighted squared distance": a coefficient vector that satisfies the weighted
normal equations is a minimiser, and the only one when the weighted design matrix has full column rank (`hinj`) -/
theorem normal_eq_minimiser (n k : Nat) (A : Fin n → Fin k → Rat) (w b : Fin n → Rat) (c c' : Fin k → Rat)
    (hw : ∀ i, 0 ≤ w i)
    (hne : ∀ j, (Finset.univ.sum fun i => w i * A i j * (b i - Finset.univ.sum fun l => A i l * c l)) = 0) :
    (Finset.univ.sum fun i => w i * (b i - Finset.univ.sum fun l => A i l * c l) ^ 2) ≤
    (Finset.univ.sum fun i => w i * (b i - Finset.univ.sum fun l => A i l * c' l) ^ 2) := by
  rw [ls_expand _ _ A w b c c' fun j _ => hne j]
  exact le_add_of_nonneg_right (Finset.sum_nonneg fun i _ => mul_nonneg (hw i) (sq_nonneg _))
theorem normal_eq_unique (n k : Nat) (A : Fin n → Fin k → Rat) (w b : Fin n → Rat) (c c' : Fin k → Rat)
    (hw : ∀ i, 0 ≤ w i)
    (hne : ∀ j, (Finset.univ.sum fun i => w i * A i j * (b i - Finset.univ.sum fun l => A i l * c l)) = 0)
    (hinj : ∀ d : Fin k → Rat, (Finset.univ.sum fun i => w i * (Finset.univ.sum fun l => A i l * d l) ^ 2) = 0 → d = 0)
    (heq : (Finset.univ.sum fun i => w i * (b i - Finset.univ.sum fun l => A i l * c' l) ^ 2) =
           (Finset.univ.sum fun i => w i * (b i - Finset.univ.sum fun l => A i l * c l) ^ 2)) :
    c' = c := by
  rw [ls_expand _ _ A w b c c' fun j _ => hne j] at heq
  have hd := hinj (fun l => c l - c' l) (add_eq_left.1 heq)
  exact funext fun l => (sub_eq_zero.1 (congrFun hd l)).symm

/-- non-vacuity: p(t) = 1 + 2t + 3t² on the domain [10, 14] (offset 12, scale 2), evaluated at x = 13 -/
example : evalPoly (convertCoef [1, 2, 3] 12 2) 13 = evalPoly [1, 2, 3] (1/2) ∧ convertCoef [1, 2, 3] 12 2 = [97, -17, 3/4] := by
  decide +kernel

/-! ### 2-D `max_cross` (`_PolyHelper2D.recalc_vandermonde`) -/

/-- the loop over `enumerate(itertools.product(range(a+1), range(b+1)))` meets column `idx` with `val = divmod(idx, b + 1)` -/
theorem maxCross_loop_eq (a b : Nat) (mc : Option Nat) :
    keptCols a b mc = (List.range ((a + 1) * (b + 1))).map (keptCol a b mc) ∧
    (keptCols a b mc).length = (a + 1) * (b + 1) :=
  ⟨keptCols_eq a b mc, keptCols_length a b mc⟩

/-- column `idx` survives the loop iff the monomial it holds, `x^(idx / (b+1)) z^(idx % (b+1))`, is in the documented set
(a pure power, or both exponents ≤ max_cross; everything for `None`) -/
theorem maxCross_kept_iff (a b : Nat) (mc : Option Nat) (idx : Nat) (d : Bool) (h : idx < (a + 1) * (b + 1)) :
    (keptCols a b mc).getD idx d = allowed mc (idx / (b + 1)) (idx % (b + 1)) :=
  keptCols_getD a b mc idx d h

theorem maxCross_kept_monomial (a b : Nat) (mc : Option Nat) (i j : Nat) (d : Bool) (hi : i ≤ a) (hj : j ≤ b) :
    (keptCols a b mc).getD (colIndex a b i j) d = allowed mc i j := by
  rw [maxCross_kept_iff a b mc _ d (colIndex_lt a b i j hi hj), colIndex_div a b i j hj, colIndex_mod a b i j hj]

theorem colIndex_bijection (a b : Nat) :
    (∀ i j, i ≤ a → j ≤ b → colIndex a b i j < (a + 1) * (b + 1) ∧
        colIndex a b i j / (b + 1) = i ∧ colIndex a b i j % (b + 1) = j) ∧
    (∀ idx, idx < (a + 1) * (b + 1) → idx / (b + 1) ≤ a ∧ idx % (b + 1) ≤ b ∧
        colIndex a b (idx / (b + 1)) (idx % (b + 1)) = idx) :=
  ⟨fun i j hi hj => ⟨colIndex_lt a b i j hi hj, colIndex_div a b i j hj, colIndex_mod a b i j hj⟩,
   fun idx h => ⟨div_le_of_lt_mul a b idx h, by have := Nat.mod_lt idx (show b + 1 > 0 by omega); omega, colIndex_divmod a b idx⟩⟩

theorem maxCross_none_of_large (a b m : Nat) (h : max a b ≤ m) : keptCols a b (some m) = keptCols a b none :=
  (keptCols_some_eq_none_iff a b m).2 (Or.inr (Or.inr h))

/-- `max`, not `min`: for orders `(1, 3)`, `max_cross = 1` still removes columns -/
theorem maxCross_none_iff (a b m : Nat) :
    keptCols a b (some m) = keptCols a b none ↔ a = 0 ∨ b = 0 ∨ max a b ≤ m :=
  keptCols_some_eq_none_iff a b m

theorem maxCross_zero (i j : Nat) : allowed (some 0) i j = true ↔ i = 0 ∨ j = 0 := by
  rw [allowed_iff]; omega

theorem maxCross_mono (m m' i j : Nat) (hm : m ≤ m') (h : allowed (some m) i j = true) :
    allowed (some m') i j = true ∧ allowed none i j = true :=
  ⟨by rw [allowed_iff] at h ⊢; omega, rfl⟩

theorem allowed_downward_closed (mc : Option Nat) (i j k l : Nat) (h : allowed mc i j = true) (hk : k ≤ i) (hl : l ≤ j) :
    allowed mc k l = true := allowed_down mc i j k l h hk hl

/-- every surface `V c` of the zeroed Vandermonde matrix is `polyval2d` of `coef.reshape(a+1, b+1)` with the excluded
entries set to zero, whatever the solver returned in those slots -/
theorem vander_masked_apply (a b : Nat) (mc : Option Nat) (coef : List Rat) (x z : Rat) :
    dot (vanderRowMasked a b mc x z) coef = evalPoly2 (maskCoef mc (reshapeCoef a b coef)) x z :=
  Lemmas.vander_masked_apply a b mc coef x z

/-- without zeroing: the column order of the reshaped `polyvander2d` is the order in which `polyval2d` reads
`coef.reshape(a+1, b+1)` -/
theorem vander_apply (a b : Nat) (coef : List Rat) (x z : Rat) :
    dot (vanderRow a b x z) coef = evalPoly2 (reshapeCoef a b coef) x z := by
  rw [← vanderRowMasked_none, Lemmas.vander_masked_apply, maskCoef_none]

theorem maskCoef_spec (mc : Option Nat) (c : List (List Rat)) (i j : Nat) (hi : i < c.length)
    (hj : j < (c.getD i []).length) :
    ((maskCoef mc c).getD i []).getD j 0 = if allowed mc i j then (c.getD i []).getD j 0 else 0 :=
  maskCoef_entry mc c i j hi hj

/-- `_convert_coef2d` = `T_x C T_z'` keeps excluded monomials at zero, for every domain (no hypothesis on offset or
scale): `T[i, k] = 0` unless `i ≤ k`, and the allowed set is downward closed -/
theorem convertCoef2d_preserves_exclusion (mc : Option Nat) (c : List (List Rat)) (nz : Nat)
    (hrect : ∀ row ∈ c, row.length = nz) (ox sx oz sz : Rat)
    (hex : ∀ k l, k < c.length → l < nz → allowed mc k l = false → (c.getD k []).getD l 0 = 0)
    (i j : Nat) (hi : i < c.length) (hj : j < nz) (hij : allowed mc i j = false) :
    ((convertCoef2d c ox sx oz sz).getD i []).getD j 0 = 0 := by
  have h0 : (c.getD 0 []).length = nz := hrect _ (getD_mem [] (by omega))
  exact convertCoef2d_excluded mc c ox sx oz sz (by rw [h0]; exact hex) i j hi (by rw [h0]; exact hj) hij

/-- the 2-D chain with `max_cross`: for any solver output `coef`, the masked coefficient matrix converted to the user's
domains (1) evaluates at the user's `(x, z)` to the returned baseline, the row of the zeroed Vandermonde matrix at the
mapped point times `coef`, and (2) is zero at every excluded monomial -/
theorem maxCross_returned_coef (a b : Nat) (mc : Option Nat) (coef : List Rat) (ox sx oz sz x z : Rat)
    (hsx : sx ≠ 0) (hsz : sz ≠ 0) :
    evalPoly2 (convertCoef2d (maskCoef mc (reshapeCoef a b coef)) ox sx oz sz) x z =
      dot (vanderRowMasked a b mc ((x - ox) / sx) ((z - oz) / sz)) coef ∧
    ∀ i j, i ≤ a → j ≤ b → allowed mc i j = false →
      ((convertCoef2d (maskCoef mc (reshapeCoef a b coef)) ox sx oz sz).getD i []).getD j 0 = 0 := by
  rw [Lemmas.vander_masked_apply, maskCoef_reshapeCoef]
  have hrect := range_map_rect (a + 1) (b + 1) fun i j =>
    if allowed mc i j then coef.getD (colIndex a b i j) 0 else 0
  refine ⟨Lemmas.convertCoef2d_eval _ (b + 1) hrect ox sx oz sz x z hsx hsz, fun i j hi hj hij => ?_⟩
  refine convertCoef2d_preserves_exclusion mc _ (b + 1) hrect ox sx oz sz ?_ i j ?_ (by omega) hij
  · intro k l hk hl hkl
    rw [List.length_map, List.length_range] at hk
    rw [getD_range_map _ _ hk, getD_range_map _ _ hl, hkl]; rfl
  · rw [List.length_map, List.length_range]; omega

/-- non-vacuity: (a, b) = (1, 3), max_cross = 1: columns of x z² and x z³ go, x z stays -/
example : keptCols 1 3 (some 1) = [true, true, true, true, true, true, false, false] ∧
    keptCols 1 3 none = List.replicate 8 true ∧ keptCols 1 3 (some 3) = keptCols 1 3 none ∧
    keptCols 1 3 (some 2) ≠ keptCols 1 3 none ∧ colIndex 1 3 1 2 = 6 := by decide +kernel

/-- (2, 2), max_cross = 0: only 1, z, z², x, x² -/
example : keptCols 2 2 (some 0) = [true, true, true, true, false, false, true, false, false] ∧
    allowedRows 2 2 (some 0) = [[true, true, true], [true, false, false], [true, false, false]] := by decide +kernel

/-- at (x, z) = (2, 3), orders (1, 3): the masked product drops the excluded terms and nothing else -/
example : dot (vanderRowMasked 1 3 (some 1) 2 3) [1, 2, 3, 4, 5, 6, 7, 8] = 188 ∧
    dot (vanderRow 1 3 2 3) [1, 2, 3, 4, 5, 6, 7, 8] = 746 ∧
    maskCoef (some 1) (reshapeCoef 1 3 [1, 2, 3, 4, 5, 6, 7, 8]) = [[1, 2, 3, 4], [5, 6, 0, 0]] := by decide +kernel

/-- zeros at the excluded places of (1, 3), max_cross = 1, converted to the domains [10, 14] × [-7/2, -5/2]: they stay 0,
the allowed cross term x z does not vanish -/
example : convertCoef2d [[1, 2, 3, 4], [5, 6, 0, 0]] 12 2 (-3) (1/2) =
    [[739, 868, 300, 32], [41/2, 6, 0, 0]] := by decide +kernel

/-- the chain on a concrete point: user domains [10, 14] × [-7/2, -5/2], (x, z) = (13, -11/4) ↦ (1/2, 1/2) -/
example : evalPoly2 (convertCoef2d (maskCoef (some 1) (reshapeCoef 1 3 [1, 2, 3, 4, 5, 6, 7, 8])) 12 2 (-3) (1/2)) 13 (-11/4) =
      dot (vanderRowMasked 1 3 (some 1) (1/2) (1/2)) [1, 2, 3, 4, 5, 6, 7, 8] ∧
    dot (vanderRowMasked 1 3 (some 1) (1/2) (1/2)) [1, 2, 3, 4, 5, 6, 7, 8] = 29/4 := by decide +kernel

end PbVerif.C08
