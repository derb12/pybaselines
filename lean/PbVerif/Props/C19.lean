import PbVerif.Lemmas.Loess
import PbVerif.Lemmas.LoessKern
import PbVerif.Lemmas.LoessRepro
import PbVerif.Lemmas.LoessAffine
/-! C19 — LOESS: which points are fitted, with which windows, and how skipped points are filled; the two memory
strategies (`conserve_memory`) compute the same baseline and coefficients; data on a polynomial of degree
≤ poly_order is reproduced at every fitted point. -/
namespace PbVerif.C19
open PbVerif.Loess PbVerif.Lemmas PbVerif.Lemmas.Loess PbVerif.LoessKern PbVerif.Lemmas.LoessKern PbVerif.Poly

/-- the first and last points are always fitted; fitted indices strictly increase -/
theorem fits_sorted_ends (x : List Rat) (tp : Nat) (delta : Rat) (hn : 2 ≤ x.length) :
    let fits := (determineFitsX x tp delta).2.1
    fits.Pairwise (· < ·) ∧ fits.head? = some 0 ∧ fits.getLast? = some (x.length - 1) :=
  Lemmas.fits_sorted_ends x tp delta hn

/-- with `delta = 0` (or negative) every point is fitted individually -/
theorem delta0_all (x : List Rat) (tp : Nat) (delta : Rat) (hd : delta ≤ 0) (hn : 1 ≤ x.length) :
    (determineFitsX x tp delta).2.1 = List.range x.length ∧ (determineFitsX x tp delta).2.2 = [] :=
  Lemmas.delta0_all x tp delta hd hn

/-- every local fit uses exactly `total_points` neighbouring points inside the data … -/
theorem windows_size (x : List Rat) (tp : Nat) (delta : Rat) (hn : 1 ≤ x.length) (htp : 1 ≤ tp) (htpn : tp ≤ x.length) :
    ∀ w ∈ (determineFitsX x tp delta).1, 0 ≤ w.1 ∧ w.2 ≤ (x.length : Int) ∧ w.2 - w.1 = (tp : Int) :=
  determineFits_windows_inb _ x.length tp _ htpn
/-- … that contain the point being fitted (sorted, pairwise distinct x) -/
theorem windows_contain_fit (x : List Rat) (tp : Nat) (delta : Rat) (hx : StrictMonoL x)
    (hn : 1 ≤ x.length) (htp : 1 ≤ tp) (htpn : tp ≤ x.length) :
    let r := determineFitsX x tp delta
    ∀ k, k < r.2.1.length → (r.1.getD k (0, 0)).1 ≤ ((r.2.1.getD k 0 : Nat) : Int) ∧
      ((r.2.1.getD k 0 : Nat) : Int) < (r.1.getD k (0, 0)).2 :=
  windows_contain_of_centring _ x.length tp _ (realOracle_centring x tp delta hx) htp

/-- skipped points are exactly the gaps between consecutive fits … -/
theorem skips_are_gaps (x : List Rat) (tp : Nat) (delta : Rat) (hn : 2 ≤ x.length) :
    let r := determineFitsX x tp delta
    r.2.2.filter (fun s => s.1 + 2 < s.2) =
      ((r.2.1.zip r.2.1.tail).filter (fun p => p.1 + 1 < p.2)).map (fun p => (p.1, p.2 + 1)) :=
  Lemmas.skips_are_gaps x tp delta hn
/-- … and `_fill_skips` on one range `[l, r)` puts every point strictly inside it on the chord through the two ends of the range,
and (`fillSkips_fixed`) leaves every other point alone -/
theorem fillSkips_chord (x b : List Rat) (l r k : Nat) (hlen : x.length = b.length) (hk : l < k ∧ k + 1 < r) (hr : r ≤ b.length) :
    (fillSkips x b [(l, r)]).getD k 0 =
      b.getD l 0 + (x.getD k 0 - x.getD l 0) * ((b.getD (r - 1) 0 - b.getD l 0) / (x.getD (r - 1) 0 - x.getD l 0)) :=
  Lemmas.fillSkips_chord x b l r k hlen hk hr
theorem fillSkips_fixed (x b : List Rat) (l r k : Nat) (hk : ¬ (l < k ∧ k + 1 < r)) (hkb : k < b.length) :
    (fillSkips x b [(l, r)]).getD k 0 = b.getD k 0 := by
  rw [fillSkips_one x b l r k hkb, if_neg hk]

/-- non-vacuity: 7 equally spaced points, 3-point windows, delta = 2.1 -/
example : determineFitsX [0, 1, 2, 3, 4, 5, 6] 3 (21/10) =
    ([(0, 3), (1, 4), (3, 6), (3, 6), (4, 7)], [0, 2, 4, 5, 6], [(0, 3), (2, 5), (4, 6)]) := by decide +kernel

/-- the corner `total_points = N` with a skipped tail: the window stays inside the data -/
example : determineFitsX [0, 1, 2] 3 (21/10) = ([(0, 3), (0, 3), (0, 3)], [0, 1, 2], [(0, 2)]) := by decide +kernel

/-! ### invariance under the magnitude of the x-axis

`x ↦ a·x + b`, `a > 0`, and `delta ↦ a·delta`: `delta` is a length on the x-axis, and the public default
`0.01·(max x − min x)` scales by itself. Every test of `_determine_fits` compares differences of x-values with each other or with
`delta`; an absolute slack in any of them (`+ _MIN_FLOAT`, `isclose`) contradicts the statements below on an axis of small or
large magnitude. -/

/-- which points are fitted, with which windows, and which ranges are skipped does not depend on offset or scale of x. `htp`: the
second-to-last test reads `x[num_x - total_points]`; with `total_points = 0` that index is out of range and the statement is
false for the totalised model. -/
theorem determineFits_affine_invariant (a b : Rat) (ha : 0 < a) (x : List Rat) (tp : Nat) (delta : Rat)
    (hn : 1 ≤ x.length) (htp : 1 ≤ tp) :
    determineFitsX (x.map (fun t => a * t + b)) tp (a * delta) = determineFitsX x tp delta := by
  have hd : decide (a * delta > 0) = decide (delta > 0) := decide_eq_decide.2 (mul_pos_iff_of_pos_left ha)
  simp only [determineFitsX, List.length_map, hd]
  exact LoessAffine.determineFits_congr _ _ x.length tp _ (LoessAffine.realOracle_agree a b ha x tp delta hn htp)

/-- the selection depends on the data only through the comparisons it can ask (`LoessAffine.Agree`), for arbitrary oracles -/
theorem determineFits_congr (o o' : Oracle) (n tp : Nat) (check : Bool) (h : LoessAffine.Agree n o o') :
    determineFits o n tp check = determineFits o' n tp check := LoessAffine.determineFits_congr o o' n tp check h

/-- `_fill_skips` / `_interp_inplace`, for any `a ≠ 0`. `hs`: every skip range lies inside the data (`C05.fillSkips_inb`); `hdist`:
the real code divides by the difference of the two abscissae of a chord. -/
theorem fillSkips_affine_invariant (a b : Rat) (ha : a ≠ 0) (x y : List Rat) (skips : List (Nat × Nat))
    (hlen : x.length = y.length) (hs : ∀ p ∈ skips, p.1 < p.2 ∧ p.2 ≤ x.length)
    (hdist : ∀ p ∈ skips, x.getD (p.2 - 1) 0 ≠ x.getD p.1 0) :
    fillSkips (x.map (fun t => a * t + b)) y skips = fillSkips x y skips :=
  LoessAffine.fillSkips_aff a b ha x y skips fun p hp => (hs p hp).2

/-- non-vacuity: `a = 10⁻³⁰, b = 0` and `a = 1, b = 1.7·10⁹`; skips are present, and scaling x without scaling `delta` does
change the selection -/
example :
    determineFitsX ([0, 1, 2, 7/2, 4, 5, 6].map (fun t => (1 / 1000000000000000000000000000000 : Rat) * t + 0)) 3
        ((1 / 1000000000000000000000000000000 : Rat) * (21/10)) = determineFitsX [0, 1, 2, 7/2, 4, 5, 6] 3 (21/10) ∧
    determineFitsX ([0, 1, 2, 7/2, 4, 5, 6].map (fun t => 1 * t + 1700000000)) 3 (1 * (21/10)) =
      determineFitsX [0, 1, 2, 7/2, 4, 5, 6] 3 (21/10) ∧
    determineFitsX [0, 1, 2, 7/2, 4, 5, 6] 3 (21/10) =
      ([(0, 3), (1, 4), (3, 6), (3, 6), (4, 7)], [0, 2, 4, 5, 6], [(0, 3), (2, 5), (4, 6)]) ∧
    determineFitsX ([0, 1, 2, 7/2, 4, 5, 6].map (fun t => (1 / 1000 : Rat) * t + 0)) 3 (21/10) ≠
      determineFitsX [0, 1, 2, 7/2, 4, 5, 6] 3 (21/10) := by
  decide +kernel
example :
    fillSkips ([0, 1, 2, 7/2, 4, 5, 6].map (fun t => (1 / 1000000000000000000000000000000 : Rat) * t + 5)) [3, 0, 1, 4, 0, 2, 2] [(0, 3), (3, 6)] =
      fillSkips [0, 1, 2, 7/2, 4, 5, 6] [3, 0, 1, 4, 0, 2, 2] [(0, 3), (3, 6)] ∧
    fillSkips [0, 1, 2, 7/2, 4, 5, 6] [3, 0, 1, 4, 0, 2, 2] [(0, 3), (3, 6)] = [3, 2, 1, 4, 10/3, 2, 2] := by
  decide +kernel

/-- the distance kernel of a local fit is the same on `a·x + b`, for any `sqrt`. `hden`: the kernel is computed without dividing by
zero (`kernel_den_pos` gives this for the windows of `_determine_fits` on sorted distinct x); the proof does not use it,
`a·d / (a·0) = d / 0` in the totalised model. -/
theorem kernel_affine_invariant (sqrt : Rat → Rat) (a b : Rat) (ha : 0 < a) (x : List Rat) (i left right : Nat)
    (hi : i < x.length) (hden : kernelDen (ratNum sqrt) x i left right ≠ 0) :
    kernelOf (ratNum sqrt) (x.map (fun t => a * t + b)) i left right = kernelOf (ratNum sqrt) x i left right :=
  LoessAffine.kernelOf_aff sqrt a b ha x i left right hi
example :
    kernelOf (ratNum (sqrtApprox 16)) ([-1, -1/2, 0, 3/4, 1].map (fun t => (1 / 1000000000000000000000000000000 : Rat) * t + 0)) 2 0 4 =
      kernelOf (ratNum (sqrtApprox 16)) [-1, -1/2, 0, 3/4, 1] 2 0 4 ∧
    kernelOf (ratNum (sqrtApprox 16)) ([-1, -1/2, 0, 3/4, 1].map (fun t => 1 * t + 1700000000)) 2 0 4 =
      kernelOf (ratNum (sqrtApprox 16)) [-1, -1/2, 0, 3/4, 1] 2 0 4 ∧
    kernelDen (ratNum (sqrtApprox 16)) [-1, -1/2, 0, 3/4, 1] 2 0 4 = 1 ∧
    (kernelOf (ratNum (sqrtApprox 16)) [-1, -1/2, 0, 3/4, 1] 2 0 4).getD 2 0 = 1 ∧
    (kernelOf (ratNum (sqrtApprox 16)) [-1, -1/2, 0, 3/4, 1] 2 0 4).getD 0 1 = 0 := by
  decide +kernel

/-! ### the memory strategies

The statements hold for every interpretation `Num α` of `+ - * / abs < sqrt` and every `Solver α` (the body of `_loess_solver`):
exact rationals, IEEE doubles with any rounding, a solver that fails. Both strategies evaluate the same expressions on the same
operands in the same order. -/

/-- first iteration: `_loess_first_loop` returns the baseline and leaves the `coefs` that `_loess_low_memory`
does, whatever `np.empty` left in `kernels` -/
theorem strategies_equal_first {α : Type} (o : Num α) (solver : Solver α) (x y w : List α)
    (coefs vander : List (List α)) (n : Nat) (windows : List (Nat × Nat)) (fits : List Nat) (junk : List (List α)) :
    (firstLoop o solver x y w coefs vander n windows fits junk).2 =
      lowMemory o solver x y w coefs vander n windows fits := by
  rw [firstLoop_eq]

/-- later iterations: `_loess_nonfirst_loops` on the kernels stored by `_loess_first_loop` (run on any earlier data `y, w, coefs`)
returns the baseline and coefficients of `_loess_low_memory` on the current data `y', w', coefs'`. `hnd`: `kernels` has one row
per point, a repeated fit index would overwrite it (`fits_sorted_ends` gives distinctness for the real selection); `hshape`:
`kernels[i] = kernel` has `total_points` entries. -/
theorem strategies_equal {α : Type} (o : Num α) (solver : Solver α) (x y w y' w' : List α)
    (coefs coefs' vander : List (List α)) (n tp : Nat) (windows : List (Nat × Nat)) (fits : List Nat)
    (junk : List (List α)) (hnd : fits.Nodup) (hlt : ∀ i ∈ fits, i < n) (hjunk : junk.length = n)
    (hlen : windows.length = fits.length) (hshape : ∀ v ∈ windows, v.1 + tp = v.2 ∧ v.2 ≤ n) :
    nonfirstLoops o solver y' w' coefs' vander
        (firstLoop o solver x y w coefs vander n windows fits junk).1 windows n fits =
      lowMemory o solver x y' w' coefs' vander n windows fits :=
  nonfirst_eq_lowMemory o solver x y' w' coefs' vander _ n windows fits
    (firstLoop_stored o solver x y w coefs vander n windows fits junk hnd (fun i hi => hjunk ▸ hlt i hi))

/-- `conserve_memory` does not change what `loess` computes: for every number of iterations (`fuel = max_iter + 1`) and every
rule `upd` for the rest of an iteration (`_fill_skips`, the tolerance test and `break`, thresholding or `_tukey_square`
re-weighting), both loops end in the same state (data, weights, coefficients, history) -/
theorem strategies_equal_loop {α β : Type} (o : Num α) (solver : Solver α) (x : List α) (vander : List (List α))
    (n : Nat) (windows : List (Nat × Nat)) (fits : List Nat) (upd : Update α β) (fuel : Nat) (s : LState α β)
    (junk : List (List α)) (hnd : fits.Nodup) (hlt : ∀ i ∈ fits, i < n) (hjunk : junk.length = n) :
    loessLoop true o solver x vander n windows fits upd fuel 0 s junk =
      loessLoop false o solver x vander n windows fits upd fuel 0 s junk :=
  loessLoop_strategies o solver x vander n windows fits upd fuel s junk hnd (fun i hi => hjunk ▸ hlt i hi)

/-- … in particular with the windows and fits `_determine_fits` produces from any `x` (sorted or not) of at least two points -/
theorem strategies_equal_loess {α β : Type} (o : Num α) (solver : Solver α) (xm : List α) (vander : List (List α))
    (x : List Rat) (tp : Nat) (delta : Rat) (upd : Update α β) (maxIter : Nat) (s : LState α β)
    (junk : List (List α)) (hn : 2 ≤ x.length) (hjunk : junk.length = x.length) :
    let d := determineFitsX x tp delta
    loessLoop true o solver xm vander x.length (natWindows d.1) d.2.1 upd (maxIter + 1) 0 s junk =
      loessLoop false o solver xm vander x.length (natWindows d.1) d.2.1 upd (maxIter + 1) 0 s junk := by
  intro d
  exact strategies_equal_loop o solver xm vander x.length _ _ upd _ s junk
    (List.nodup_range.sublist (determineFits_core (realOracle x tp delta) x.length tp (decide (delta > 0))).sub)
    (determineFits_fits_lt _ x.length tp _ (by omega)) hjunk

/-- which entries a pass writes: `baseline[i]` exactly for the fitted `i`; `coefs` rows of skipped points keep
their zeros (the documented "coefficients for any skipped x-value will all be 0") -/
theorem baseline_written_iff {α : Type} (o : Num α) (solver : Solver α) (x y w : List α) (coefs vander : List (List α))
    (n : Nat) (windows : List (Nat × Nat)) (fits : List Nat) (hlen : windows.length = fits.length)
    (hlt : ∀ i ∈ fits, i < n) (j : Nat) (hj : j < n) :
    let r := lowMemory o solver x y w coefs vander n windows fits
    r.baseline.length = n ∧ (r.baseline.getD j none ≠ none ↔ j ∈ fits) ∧
      (j ∉ fits → r.coefs.getD j [] = coefs.getD j []) :=
  lowMemory_written o solver x y w coefs vander n windows fits hlen j hj

/-- non-vacuity: a second pass with other data and weights through the cache equals the recomputation, and is not trivial (three
entries written, two not) -/
example :
    let o := ratNum (sqrtApprox 16)
    let x : List Rat := [-1, -1/2, 0, 1/2, 1]
    let z := List.replicate 5 [(0 : Rat), 0]
    let ks := (firstLoop o solveExact x [1, 2, 4, 2, 3] [1, 1, 1, 1, 1] z (vanderOf x 1) 5 [(0, 4), (0, 4), (1, 5)] [0, 2, 4]
      (List.replicate 5 [])).1
    let r := nonfirstLoops o solveExact [1, 2, 3, 2, 3] [1, 1/2, 1, 1, 3/4] z (vanderOf x 1) ks [(0, 4), (0, 4), (1, 5)] 5 [0, 2, 4]
    r = lowMemory o solveExact x [1, 2, 3, 2, 3] [1, 1/2, 1, 1, 3/4] z (vanderOf x 1) 5 [(0, 4), (0, 4), (1, 5)] [0, 2, 4] ∧
      r.baseline.map Option.isSome = [true, false, true, false, true] ∧ r.coefs.getD 1 [] = [0, 0] ∧
      r.coefs.getD 2 [] ≠ [0, 0] := by decide +kernel

/-! ### polynomial reproduction -/

/-- the kernel is computed without dividing by zero on the windows `_determine_fits` yields for sorted distinct
`x` and `total_points ≥ 2` (they contain their fit point: `windows_contain_fit`) -/
theorem kernel_den_pos (sqrt : Rat → Rat) (x : List Rat) (i left right : Nat) (hx : StrictMonoL x)
    (hli : left ≤ i) (hir : i < right) (h2 : left + 2 ≤ right) (hr : right ≤ x.length) :
    0 < kernelDen (ratNum sqrt) x i left right := by
  rw [kernelDen_eq sqrt x i left right (by omega) hr]
  refine pyMax_pos sqrt _ _ (abs_nonneg _) ?_
  -- the fit point differs from the first or from the last point of the window
  by_cases hil : i = left
  · exact Or.inr (abs_pos.2 (sub_ne_zero.2 (ne_of_gt (hx i (right - 1) (by omega) (by omega)))))
  · exact Or.inl (abs_pos.2 (sub_ne_zero.2 (ne_of_lt (hx left i (by omega) (by omega)))))

/-- LOESS reproduces polynomials: for data exactly on a polynomial `p` of degree ≤ `poly_order`, `baseline[i] = p(x[i])` and
`coefs[i] = p` at every fitted point, for any robustness weights `w` and any `sqrt`, hence in every iteration and (by
`strategies_equal`) for both strategies. `FitOk`, per (fit, window) pair: window inside the data around its fit point, more than
`poly_order` window points with non-zero weight `kernel·sqrt_w`, and (numeric layer, `NormalEq`) `_loess_solver`'s answer solves
the normal equations it was handed. -/
theorem poly_reproduction (sqrt : Rat → Rat) (solver : Solver Rat) (x y w p : List Rat)
    (coefs : List (List Rat)) (po : Nat) (windows : List (Nat × Nat)) (fits : List Nat)
    (hx : StrictMonoL x) (hy : y.length = x.length) (hw : w.length = x.length) (hc : coefs.length = x.length)
    (hp : p.length ≤ po + 1)
    (hdata : ∀ k, k < x.length → y.getD k 0 = evalPoly p (x.getD k 0))
    (hfit : ∀ q ∈ fits.zip windows, FitOk sqrt solver x y w po q) :
    let r := lowMemory (ratNum sqrt) solver x y w coefs (vanderOf x po) x.length windows fits
    ∀ q ∈ fits.zip windows,
      r.baseline.getD q.1 none = some (evalPoly p (x.getD q.1 0)) ∧
      r.coefs.getD q.1 [] = (List.range (po + 1)).map (fun l => p.getD l 0) := by
  intro r q hq
  -- whichever pair wrote entry `q.1`, its local fit reproduces `p`
  have hrep := fun q' hq' => localFit_reproduces sqrt solver x y w p po hx hy hw hp hdata q' (hfit q' hq')
  have hmem : q.1 ∈ (fits.zip windows).map Prod.fst := List.mem_map_of_mem hq
  rw [show r = _ from lowMemory_eq ..]
  exact ⟨foldl_set_getD Prod.fst _ _ _ none hmem (by rw [List.length_replicate]; exact (hrep q hq).1)
      fun q' hq' e => by rw [(hrep q' hq').2.2, e],
    foldl_set_getD Prod.fst _ _ _ [] hmem (hc ▸ (hrep q hq).1) fun q' hq' _ => (hrep q' hq').2.1⟩

/-- non-vacuity: `y = 1 + 2x`, straight-line fits on 4-point windows (3 points carry weight), the exact solver -/
example :
    let x : List Rat := [-1, -1/2, 0, 1/2, 1]
    let y : List Rat := [-1, 0, 1, 2, 3]
    let w : List Rat := [1, 1, 1/2, 1, 1]
    (∀ q ∈ [0, 2, 3, 4].zip [(0, 4), (0, 4), (1, 5), (1, 5)], FitOk (sqrtApprox 16) solveExact x y w 1 q) ∧
    (lowMemory (ratNum (sqrtApprox 16)) solveExact x y w (List.replicate 5 [0, 0]) (vanderOf x 1) 5
      [(0, 4), (0, 4), (1, 5), (1, 5)] [0, 2, 3, 4]).baseline = [some (-1), none, some 1, some 2, some 3] := by
  decide +kernel

/-- the weight-count hypothesis is needed: with `total_points = poly_order + 1` the farthest window point has kernel weight 0, the
local system is singular and nothing is reproduced (the real code raises `LinAlgError` or returns whatever LAPACK leaves) -/
example : ¬ FitOk (sqrtApprox 16) solveExact [-1, -1/2, 0, 1/2, 1] [-1, 0, 1, 2, 3] [1, 1, 1, 1, 1] 1 (0, 0, 2) := by
  decide +kernel

end PbVerif.C19
