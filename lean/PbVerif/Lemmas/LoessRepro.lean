import Mathlib.LinearAlgebra.Vandermonde
import PbVerif.Lemmas.Poly
import PbVerif.Lemmas.Loess
import PbVerif.Lemmas.LoessKern
/-! C19: LOESS reproduces polynomials of degree ≤ `poly_order`.  Numeric layer, as a hypothesis: `_loess_solver` returns
a solution of the normal equations it is handed (`NormalEq`).  What the local system contains, which points carry
weight, and uniqueness (Vandermonde) are proved.  The namespace of `LoessKern.lean`, here with Mathlib. -/
namespace PbVerif.Lemmas.LoessKern
open PbVerif.LoessKern PbVerif.Poly PbVerif.Lemmas
open Finset

/-- a solution `c` of the normal equations of a consistent system `b = A p` has `A c = A p`: by Pythagoras the
residual of `p`, which vanishes, is that of `c` plus `|A (c - p)|²` -/
theorem normalEq_consistent (AT : List (List Rat)) (b c : List Rat) (p : Nat → Rat)
    (hb : ∀ k, k < b.length → b.getD k 0 = ∑ l ∈ range AT.length, (AT.getD l []).getD k 0 * p l)
    (hsol : NormalEq AT b c) (k : Nat) (hk : k < b.length) :
    ∑ l ∈ range AT.length, (AT.getD l []).getD k 0 * (c.getD l 0 - p l) = 0 := by
  have h := ls_expand (range b.length) (range AT.length) (fun k l => (AT.getD l []).getD k 0) (fun _ => 1)
    (fun k => b.getD k 0) (fun l => c.getD l 0) p fun j hj => by
      have := hsol.2 j (mem_range.1 hj)
      simp only [sumL_range_map] at this
      simp only [one_mul, mul_sub, Finset.sum_sub_distrib, this, sub_self]
  simp only [one_mul] at h
  -- the left-hand side vanishes, so both sums of squares on the right do, and every term of the second
  have h0 : ∑ k ∈ range b.length, (b.getD k 0 - ∑ l ∈ range AT.length, (AT.getD l []).getD k 0 * p l) ^ 2 = 0 :=
    Finset.sum_eq_zero fun k hk => by rw [hb k (mem_range.1 hk), sub_self, zero_pow two_ne_zero]
  have h2 := ((add_eq_zero_iff_of_nonneg (Finset.sum_nonneg fun _ _ => sq_nonneg _)
    (Finset.sum_nonneg fun _ _ => sq_nonneg _)).1 (h.symm.trans h0)).2
  exact sq_eq_zero_iff.1 ((Finset.sum_eq_zero_iff_of_nonneg fun _ _ => sq_nonneg _).1 h2 k (mem_range.2 hk))

/-- with the weighted monomial design `t_k^l · u_k` for matrix and that design applied to `p` for right-hand side, the
normal equations have no solution but `p`, if as many pairwise distinct nodes as coefficients carry weight -/
theorem normalEq_unique_of_exact (AT : List (List Rat)) (b c : List Rat) (n m : Nat) (t u p : Nat → Rat)
    (hn : AT.length = n) (hm : b.length = m)
    (hA : ∀ l k, l < n → k < m → (AT.getD l []).getD k 0 = t k ^ l * u k)
    (hb : ∀ k, k < m → b.getD k 0 = u k * ∑ l ∈ range n, p l * t k ^ l)
    (hsol : NormalEq AT b c)
    (good : Fin n → Nat) (hinj : Function.Injective fun a => t (good a))
    (hgm : ∀ a, good a < m) (hgu : ∀ a, u (good a) ≠ 0) :
    c.length = n ∧ ∀ l, l < n → c.getD l 0 = p l := by
  subst hn hm
  have hAe := normalEq_consistent AT b c p (fun k hk => by
    rw [hb k hk, Finset.mul_sum]
    exact Finset.sum_congr rfl fun l hl => by rw [hA l k (mem_range.1 hl) hk]; ring) hsol
  -- at a node that carries weight the polynomial with coefficients `c - p` vanishes
  have hroot : ∀ a, ∑ l : Fin AT.length, (c.getD l 0 - p l) * t (good a) ^ (l : ℕ) = 0 := fun a => by
    rw [Fin.sum_univ_eq_sum_range (fun l => (c.getD l 0 - p l) * t (good a) ^ l)]
    refine (mul_eq_zero.1 ?_).resolve_left (hgu a)
    rw [Finset.mul_sum]
    refine (Finset.sum_congr rfl fun l hl => ?_).trans (hAe (good a) (hgm a))
    rw [hA l _ (mem_range.1 hl) (hgm a)]; ring
  have hv := Matrix.eq_zero_of_forall_index_sum_mul_pow_eq_zero (f := fun a => t (good a)) hinj hroot
  exact ⟨hsol.1, fun l hl => sub_eq_zero.1 (congrFun hv ⟨l, hl⟩)⟩

theorem exists_good (g : List Nat) (n : Nat) (hn : n ≤ g.length) (hnd : g.Nodup) :
    ∃ good : Fin n → Nat, Function.Injective good ∧ ∀ a, good a ∈ g := by
  refine ⟨fun a => g[a.1]'(by omega), ?_, fun a => List.getElem_mem _⟩
  intro a b hab
  have := (List.Nodup.getElem_inj_iff hnd).1 hab
  exact Fin.ext this

/-! ### reading the local system -/

theorem vanderOf_row (x : List Rat) (po k : Nat) (hk : k < x.length) :
    (vanderOf x po).getD k [] = (List.range (po + 1)).map fun (j : Nat) => x.getD k 0 ^ j :=
  getD_map_of_lt _ 0 [] hk

theorem vanderOf_getD (x : List Rat) (po k j : Nat) (hk : k < x.length) (hj : j < po + 1) :
    ((vanderOf x po).getD k []).getD j 0 = x.getD k 0 ^ j := by
  rw [vanderOf_row x po k hk, getD_range_map _ 0 hj]

theorem ncols_vanderOf (x : List Rat) (po : Nat) (hx : 0 < x.length) : ncols (vanderOf x po) = po + 1 := by
  rw [ncols, headD_eq_getD, vanderOf_row x po 0 hx, List.length_map, List.length_range]

theorem vanderFit_getD (sqrt : Rat → Rat) (x w : List Rat) (po j k : Nat) (hw : w.length = x.length)
    (hj : j < po + 1) (hk : k < x.length) :
    ((vanderFit (ratNum sqrt) (vanderOf x po) w).getD j []).getD k 0 = x.getD k 0 ^ j * w.getD k 0 := by
  rw [vanderFit, ncols_vanderOf x po (by omega), getD_range_map _ [] hj,
    getD_zipWith_of_lt _ [] 0 0 (by rw [vanderOf, List.length_map]; exact hk) (hw ▸ hk)]
  show ((vanderOf x po).getD k []).getD j 0 * w.getD k 0 = _
  rw [vanderOf_getD x po k j hk hj]

section system
variable (sqrt : Rat → Rat) (x y w kernel : List Rat) (po left right : Nat)

abbrev sysOf : List (List Rat) × List Rat :=
  localSystem (ratNum sqrt) (yFit (ratNum sqrt) y w) (vanderFit (ratNum sqrt) (vanderOf x po) w) kernel left right

theorem sys_rows (hx : 0 < x.length) : (sysOf sqrt x y w kernel po left right).1.length = po + 1 := by
  simp only [sysOf, localSystem, vanderFit, ncols_vanderOf x po hx, List.length_map, List.length_range]

theorem sys_rhs_length (hy : y.length = x.length) (hw : w.length = x.length) (hr : right ≤ x.length)
    (hk : kernel.length = right - left) : (sysOf sqrt x y w kernel po left right).2.length = right - left := by
  simp only [sysOf, localSystem, yFit, List.length_zipWith, hk]
  rw [length_slice _ _ _ (by rw [List.length_zipWith, hy, hw, Nat.min_self]; exact hr), Nat.min_self]

/-- the monomial design at the window's abscissae, column `k` scaled by the total weight `kernel·sqrt_w` of its point -/
theorem sys_entry (hw : w.length = x.length) (hr : right ≤ x.length) (j k : Nat) (hj : j < po + 1)
    (hk : k < right - left) :
    ((sysOf sqrt x y w kernel po left right).1.getD j []).getD k 0 =
      x.getD (left + k) 0 ^ j * (kernel.getD k 0 * w.getD (left + k) 0) := by
  have hlen : j < (vanderFit (ratNum sqrt) (vanderOf x po) w).length := by
    rw [vanderFit, List.length_map, List.length_range, ncols_vanderOf x po (by omega)]; exact hj
  have hrow : (sysOf sqrt x y w kernel po left right).1.getD j [] =
      List.zipWith (fun p q : Rat => p * q) kernel
        (slice ((vanderFit (ratNum sqrt) (vanderOf x po) w).getD j []) left right) :=
    getD_map_of_lt _ [] [] hlen
  rw [hrow, getD_zipWith _ _ _ 0 k zero_mul mul_zero, getD_slice _ 0 _ _ _ hk,
    vanderFit_getD sqrt x w po j (left + k) hw hj (by omega)]
  exact mul_left_comm _ _ _

theorem sys_rhs (k : Nat) (hk : k < right - left) :
    (sysOf sqrt x y w kernel po left right).2.getD k 0 =
      kernel.getD k 0 * w.getD (left + k) 0 * y.getD (left + k) 0 := by
  have h : (sysOf sqrt x y w kernel po left right).2 =
      List.zipWith (fun p q : Rat => p * q) kernel
        (slice (List.zipWith (fun p q : Rat => p * q) y w) left right) := rfl
  rw [h, getD_zipWith _ _ _ 0 k zero_mul mul_zero, getD_slice _ 0 _ _ _ hk,
    getD_zipWith _ _ _ 0 _ zero_mul mul_zero]
  ring

end system

theorem dot_eq (sqrt : Rat → Rat) (a b : List Rat) (n : Nat) (ha : a.length = n) (hb : b.length = n) :
    dot (ratNum sqrt) a b = ∑ l ∈ range n, a.getD l 0 * b.getD l 0 :=
  foldl_add_zipWith_mul a b n ha hb

theorem strictMonoL_inj {x : List Rat} (hx : StrictMonoL x) {i j : Nat} (hi : i < x.length) (hj : j < x.length)
    (h : x.getD i 0 = x.getD j 0) : i = j := by
  rcases Nat.lt_trichotomy i j with hij | hij | hij
  · exact absurd h (ne_of_lt (hx i j hij hj))
  · exact hij
  · exact absurd h.symm (ne_of_lt (hx j i hij hi))

/-- `c` is any vector that satisfies the normal equations of the local system (numeric layer: what `_loess_solver`
returns), `kernel` any vector, recomputed or cached; `hpos`: more than `poly_order` window points have non-zero
total weight `kernel·sqrt_w` -/
theorem solver_reproduces (sqrt : Rat → Rat) (x y w kernel p c : List Rat)
    (po left right : Nat) (hx : StrictMonoL x) (hy : y.length = x.length) (hw : w.length = x.length)
    (hlr : left < right) (hr : right ≤ x.length) (hk : kernel.length = right - left)
    (hp : p.length ≤ po + 1)
    (hdata : ∀ k, left ≤ k → k < right → y.getD k 0 = evalPoly p (x.getD k 0))
    (hpos : po < ((List.range (right - left)).filter fun k => kernel.getD k 0 * w.getD (left + k) 0 ≠ 0).length)
    (hsol : NormalEq (sysOf sqrt x y w kernel po left right).1 (sysOf sqrt x y w kernel po left right).2 c) :
    c.length = po + 1 ∧ ∀ l, l < po + 1 → c.getD l 0 = p.getD l 0 := by
  obtain ⟨good, hginj, hgmem⟩ := exists_good
    ((List.range (right - left)).filter fun k => kernel.getD k 0 * w.getD (left + k) 0 ≠ 0) (po + 1) hpos
    (List.Nodup.filter _ List.nodup_range)
  have hgm : ∀ a, good a < right - left := fun a => List.mem_range.1 (List.mem_filter.1 (hgmem a)).1
  have hin : ∀ k, k < right - left → left + k < x.length := fun k hk => by omega
  exact normalEq_unique_of_exact _ _ _ (po + 1) (right - left) (fun k => x.getD (left + k) 0)
    (fun k => kernel.getD k 0 * w.getD (left + k) 0) (fun l => p.getD l 0)
    (sys_rows sqrt x y w kernel po left right (by omega))
    (sys_rhs_length sqrt x y w kernel po left right hy hw hr hk)
    (fun l k hl hk' => sys_entry sqrt x y w kernel po left right hw hr l k hl hk')
    (fun k hk' => by
      rw [sys_rhs sqrt x y w kernel po left right k hk', hdata (left + k) (Nat.le_add_right _ _) (by omega),
        evalPoly_pad p (po + 1) hp])
    hsol good
    -- distinct window positions have distinct abscissae
    (fun a b hab => hginj (Nat.add_left_cancel (strictMonoL_inj hx (hin _ (hgm a)) (hin _ (hgm b)) hab)))
    hgm (fun a => of_decide_eq_true (List.mem_filter.1 (hgmem a)).2)

/-! ### the guards of the kernel computation -/

theorem diffs_length (sqrt : Rat → Rat) (x : List Rat) (i left right : Nat) (hr : right ≤ x.length) :
    (diffs (ratNum sqrt) x i left right).length = right - left := by
  rw [diffs, List.length_map, length_slice x left right hr]

theorem kernelOf_length (sqrt : Rat → Rat) (x : List Rat) (i left right : Nat) (hr : right ≤ x.length) :
    (kernelOf (ratNum sqrt) x i left right).length = right - left := by
  rw [kernelOf, List.length_map, diffs_length sqrt x i left right hr]

theorem ratNum_abs (sqrt : Rat → Rat) (q : Rat) : (ratNum sqrt).abs q = |q| := by
  simp only [ratNum]
  split
  · next h => rw [abs_of_neg h]
  · next h => rw [abs_of_nonneg (not_lt.1 h)]

theorem diffs_getD (sqrt : Rat → Rat) (x : List Rat) (i left right k : Nat) (hk : k < right - left)
    (hr : right ≤ x.length) :
    (diffs (ratNum sqrt) x i left right).getD k 0 = |x.getD (left + k) 0 - x.getD i 0| := by
  rw [diffs, getD_map_of_lt _ 0 0 (by rw [length_slice x left right hr]; exact hk), getD_slice _ 0 _ _ _ hk, ratNum_abs]
  rfl

theorem pyMax_pos (sqrt : Rat → Rat) (u v : Rat) (hu : 0 ≤ u) (h : 0 < u ∨ 0 < v) : 0 < pyMax (ratNum sqrt) u v := by
  simp only [pyMax, ratNum, decide_eq_true_eq]
  split
  · next huv => exact lt_of_le_of_lt hu huv
  · next huv => exact h.elim id fun hv => lt_of_lt_of_le hv (not_lt.1 huv)

theorem kernelDen_eq (sqrt : Rat → Rat) (x : List Rat) (i left right : Nat) (hlr : left < right) (hr : right ≤ x.length) :
    kernelDen (ratNum sqrt) x i left right =
      pyMax (ratNum sqrt) |x.getD left 0 - x.getD i 0| |x.getD (right - 1) 0 - x.getD i 0| := by
  rw [kernelDen, ratNum_zero, headD_eq_getD, getLastD_eq_getD, diffs_length sqrt x i left right hr,
    diffs_getD sqrt x i left right 0 (by omega) hr, diffs_getD sqrt x i left right (right - left - 1) (by omega) hr,
    Nat.add_zero, show left + (right - left - 1) = right - 1 by omega]

/-- the hypotheses on one (fit `q.1`, window `[q.2.1, q.2.2)`) pair: the window lies inside the data, contains its fit
point and at least two points (so the kernel is computed without dividing by zero, `C19.kernel_den_pos`), more than
`poly_order` of its points carry non-zero total weight `kernel·sqrt_w`, and (the NUMERIC LAYER) `_loess_solver`
returned a solution of the normal equations of this local system -/
def FitOk (sqrt : Rat → Rat) (solver : Solver Rat) (x y w : List Rat) (po : Nat) (q : Nat × Nat × Nat) : Prop :=
  q.2.1 ≤ q.1 ∧ q.1 < q.2.2 ∧ q.2.1 + 2 ≤ q.2.2 ∧ q.2.2 ≤ x.length ∧
  po < ((List.range (q.2.2 - q.2.1)).filter fun k =>
      (kernelOf (ratNum sqrt) x q.1 q.2.1 q.2.2).getD k 0 * w.getD (q.2.1 + k) 0 ≠ 0).length ∧
  NormalEq (sysOf sqrt x y w (kernelOf (ratNum sqrt) x q.1 q.2.1 q.2.2) po q.2.1 q.2.2).1
    (sysOf sqrt x y w (kernelOf (ratNum sqrt) x q.1 q.2.1 q.2.2) po q.2.1 q.2.2).2
    (solver (sysOf sqrt x y w (kernelOf (ratNum sqrt) x q.1 q.2.1 q.2.2) po q.2.1 q.2.2).1
      (sysOf sqrt x y w (kernelOf (ratNum sqrt) x q.1 q.2.1 q.2.2) po q.2.1 q.2.2).2)

instance (sqrt : Rat → Rat) (solver : Solver Rat) (x y w : List Rat) (po : Nat) (q : Nat × Nat × Nat) :
    Decidable (FitOk sqrt solver x y w po q) := by
  unfold FitOk; exact inferInstance

/-- `coefs[i]` is `p` padded with zeros to `poly_order + 1` entries, and `baseline[i] = p(x[i])` -/
theorem localFit_reproduces (sqrt : Rat → Rat) (solver : Solver Rat) (x y w p : List Rat) (po : Nat)
    (hx : StrictMonoL x) (hy : y.length = x.length) (hw : w.length = x.length) (hp : p.length ≤ po + 1)
    (hdata : ∀ k, k < x.length → y.getD k 0 = evalPoly p (x.getD k 0)) (q : Nat × Nat × Nat)
    (hq : FitOk sqrt solver x y w po q) :
    q.1 < x.length ∧
      (localFit (ratNum sqrt) solver x y w (vanderOf x po) q).1 = (List.range (po + 1)).map (fun l => p.getD l 0) ∧
      (localFit (ratNum sqrt) solver x y w (vanderOf x po) q).2 = evalPoly p (x.getD q.1 0) := by
  obtain ⟨h1, h2, h3, h4, h5, h6⟩ := hq
  have hi : q.1 < x.length := by omega
  obtain ⟨hclen, hcl⟩ := solver_reproduces sqrt x y w (kernelOf (ratNum sqrt) x q.1 q.2.1 q.2.2) p _ po q.2.1 q.2.2
    hx hy hw (by omega) h4 (kernelOf_length sqrt x q.1 q.2.1 q.2.2 h4) hp (fun k _ hk => hdata k (by omega)) h5 h6
  refine ⟨hi, ext_getD 0 (by rw [List.length_map, List.length_range]; exact hclen) fun l hl => ?_, ?_⟩
  · rw [getD_range_map _ 0 (hclen ▸ hl)]; exact hcl l (hclen ▸ hl)
  · show dot (ratNum sqrt) ((vanderOf x po).getD q.1 []) _ = _
    rw [dot_eq sqrt _ _ (po + 1) (by rw [vanderOf_row x po q.1 hi, List.length_map, List.length_range]) hclen,
      evalPoly_pad p (po + 1) hp]
    refine Finset.sum_congr rfl fun l hl => ?_
    rw [Finset.mem_range] at hl
    rw [vanderOf_getD x po q.1 l hi hl, hcl l hl, mul_comm]

end PbVerif.Lemmas.LoessKern
