/-! Flat erosion and dilation over an arbitrary index type.  An operator `W` on signals `ι → Rat` is the erosion
(`R` = `≤`) or the dilation (`R` = `≥`) by a structuring element `N` when `W g i` is the `R`-greatest `R`-lower
bound of `g` over the neighbourhood `N i` (`Glb`).  For a symmetric `N` the pair is adjoint, which is all that the
opening laws use; the 1-D window and the rectangle of the morphology model are instances (`winFold_glb`, `W2_glb`).
Core Lean only. -/
namespace PbVerif.Lemmas

/-- what the window lemmas use of `≤` with `min` and of `≥` with `max` on `Rat`, so that each is proved once for
erosion and dilation -/
structure Dir (R : Rat → Rat → Prop) (op : Rat → Rat → Rat) : Prop where
  refl : ∀ a, R a a
  trans : ∀ {a b c}, R a b → R b c → R a c
  antisymm : ∀ {a b}, R a b → R b a → a = b
  /-- all that `Glb.shift` uses of the compatibility with addition -/
  sub : ∀ {a b c : Rat}, R (a - c) b ↔ R a (b + c)
  glb : ∀ {c a b}, R c (op a b) ↔ R c a ∧ R c b

theorem dirMin : Dir (· ≤ ·) min :=
  ⟨fun _ => Rat.le_refl, Rat.le_trans, Rat.le_antisymm, Rat.sub_right_le_iff_le_add, Std.le_min_iff⟩
theorem dirMax : Dir (· ≥ ·) max :=
  ⟨fun _ => Rat.le_refl, fun h1 h2 => Rat.le_trans h2 h1, fun h1 h2 => Rat.le_antisymm h2 h1, Rat.le_sub_iff,
    by intros; grind⟩

variable {ι : Type} {R : Rat → Rat → Prop} {op op' : Rat → Rat → Rat} {N : ι → ι → Prop}
  {E D : (ι → Rat) → ι → Rat}

theorem Dir.ext (d : Dir R op) {u v : Rat} (H : ∀ c, R c u ↔ R c v) : u = v :=
  d.antisymm ((H u).mp (d.refl u)) ((H v).mpr (d.refl v))

def Glb (R : Rat → Rat → Prop) (N : ι → ι → Prop) (W : (ι → Rat) → ι → Rat) : Prop :=
  ∀ g i c, R c (W g i) ↔ ∀ j, N i j → R c (g j)

theorem Glb.le (hE : Glb R N E) (d : Dir R op) (g : ι → Rat) {i j : ι} (hj : N i j) : R (E g i) (g j) :=
  (hE g i _).mp (d.refl _) j hj

theorem Glb.mono (hE : Glb R N E) (d : Dir R op) {g g' : ι → Rat} (H : ∀ k, R (g k) (g' k)) (i : ι) :
    R (E g i) (E g' i) :=
  (hE g' i _).mpr fun j hj => d.trans (hE.le d g hj) (H j)

/-- opening ≤ id (`R` = `≤`) and id ≤ closing (`R` = `≥`): `i` lies in the neighbourhood of each of its neighbours -/
theorem Glb.adj (hE : Glb R N E) (d : Dir R op) (hD : Glb (flip R) N D) (hN : ∀ i j, N i j → N j i) (g : ι → Rat)
    (i : ι) : R (D (E g) i) (g i) :=
  (hD (E g) i _).mpr fun j hj => hE.le d g (hN i j hj)

theorem Glb.EDE (hE : Glb R N E) (d : Dir R op) (hD : Glb (flip R) N D) (d' : Dir (flip R) op')
    (hN : ∀ i j, N i j → N j i) (g : ι → Rat) : E (D (E g)) = E g :=
  funext fun i => d.antisymm (hE.mono d (hE.adj d hD hN g) i) (hD.adj d' hE hN (E g) i)

theorem Glb.shift (hE : Glb R N E) (d : Dir R op) (g : ι → Rat) (c : Rat) (i : ι) :
    E (fun k => g k + c) i = E g i + c :=
  d.ext fun c' => by rw [hE, ← d.sub, hE]; simp only [d.sub]

/-- two neighbourhoods that carry the same values give the same window value -/
theorem Glb.congr (hE : Glb R N E) (d : Dir R op) {g g' : ι → Rat} {i i' : ι} (σ τ : ι → ι)
    (h1 : ∀ j, N i' j → N i (σ j) ∧ g (σ j) = g' j) (h2 : ∀ j, N i j → N i' (τ j) ∧ g' (τ j) = g j) :
    E g' i' = E g i :=
  d.ext fun c => by
    rw [hE, hE]
    exact ⟨fun H j hj => (h2 j hj).2 ▸ H _ (h2 j hj).1, fun H j hj => (h1 j hj).2 ▸ H _ (h1 j hj).1⟩

end PbVerif.Lemmas
