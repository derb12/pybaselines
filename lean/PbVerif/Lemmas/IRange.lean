import PbVerif.Model.BandMul
/-! `irange lo hi` is Python's `range(lo, hi)`; the two inner `range`s of `_numba_banded_dot_banded` as intervals (for the value
model `BandMul` of C10 and the index trace `bandDotIdx` of C05 alike). Core Lean only. -/
namespace PbVerif.Lemmas
open PbVerif.BandMul

theorem mem_irange (lo hi x : Int) : x ∈ irange lo hi ↔ lo ≤ x ∧ x < hi := by
  simp only [irange, List.mem_map, List.mem_range]
  constructor
  · rintro ⟨k, hk, rfl⟩; omega
  · rintro ⟨h1, h2⟩; exact ⟨(x - lo).toNat, by omega, by omega⟩

theorem nodup_irange (lo hi : Int) : (irange lo hi).Nodup :=
  List.Pairwise.map _ (fun a b (h : a ≠ b) => by omega) List.nodup_range

/-- the innermost `range` holds exactly the frames for which the column `fr` of `a`, the column `fr - o_b` of `b` and `c`, and the
row `fr + o_a` of the product exist; so it is empty for a diagonal `o_c = o_a + o_b` beyond the `n × n` matrix, which keeps `row_c ≥ 0` -/
theorem mem_frames (oa ob fr : Int) (n : Nat) :
    fr ∈ irange (max 0 (max (-oa) ob)) (max 0 ((n : Int) + min 0 (min (-oa) ob))) ↔
      0 ≤ fr ∧ fr < n ∧ 0 ≤ fr + oa ∧ fr + oa < n ∧ 0 ≤ fr - ob ∧ fr - ob < n := by
  have key : fr - n < min 0 (min (-oa) ob) ↔ fr - n < 0 ∧ fr - n < -oa ∧ fr - n < ob := by rw [Int.lt_min, Int.lt_min]
  rw [mem_irange, Int.max_le, Int.max_le]
  -- with the inner `min` spelt out in `key`, `omega` has only the outer `max 0` of the upper end to split
  generalize min 0 (min (-oa) ob) = m at key ⊢
  omega

/-- the middle `range` holds exactly the diagonals `o_a` for which `row_a` and `row_b` (diagonal `o_b = o_c - o_a`) are stored bands -/
theorem mem_offsets (al au bl bu : Nat) (oc oa : Int) :
    oa ∈ irange (-(min (au : Int) ((bl : Int) - oc))) (min (al : Int) ((bu : Int) + oc) + 1) ↔
      -(au : Int) ≤ oa ∧ oa ≤ al ∧ -(bu : Int) ≤ oc - oa ∧ oc - oa ≤ bl := by
  rw [mem_irange, Int.neg_le_iff, Int.le_min, Int.lt_add_one_iff, Int.le_min]
  omega

end PbVerif.Lemmas
