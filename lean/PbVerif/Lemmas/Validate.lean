import PbVerif.Model.Validate
import PbVerif.Lemmas.ListAux
/-! Lemmas for C15.  `checkScalar` converts the elements of its argument (`origEls`) one by one and then decides by their
number; `checkScalarVariable` filters its result by sign, `checkHalfWindow` filters that by comparison with the input.
Acceptance is read backwards: `checkScalar_ok` (the result consists of the conversions of the argument's elements),
`checkScalarVariable_ok` (one layer down), `checkHalfWindow_ok` (position by position), each with its reading on the argument
(`…_ok_input`).  The `rejects` theorems of `Props/C15` are the contrapositive of that reading (`rejected_of_not_ok`), so no
checker is ever evaluated forwards. -/
namespace PbVerif.Lemmas
open PbVerif.Validate

theorem truncQ_den (q : Rat) : (truncQ q).den = 1 := by simp [truncQ]

theorem truncQ_nonpos {q : Rat} (hq : q ≤ 0) : truncQ q ≤ 0 := by
  -- core has the `tdiv` sign lemma for non-negatives only (`Int.tdiv_nonneg`): negate
  unfold truncQ
  rw [Rat.intCast_nonpos]
  have h1 : q.num ≤ 0 := by
    have : 0 ≤ (-q).num := Rat.num_nonneg.mpr (by
      have := Rat.neg_le_neg hq
      simpa using this)
    rw [Rat.neg_num] at this; omega
  have h2 : (0:Int) ≤ q.den := Int.natCast_nonneg _
  have := Int.tdiv_nonneg (a := -q.num) (b := q.den) (by omega) h2
  rw [Int.neg_tdiv] at this
  omega

theorem truncQ_ne {q : Rat} (hq : q.den ≠ 1) : truncQ q ≠ q := fun h => hq (h ▸ truncQ_den q)

theorem rejected_of_not_ok {r : Res} (h : ∀ es sc, r ≠ .ok es sc) : r.rejected = true := by
  cases r with
  | ok es sc => exact absurd rfl (h es sc)
  | _ => rfl

theorem convList_cons (dt : Bool) (s : Sc) (t : List Sc) :
    convList dt (s :: t) = match convSc dt s with
      | .error r => .error r
      | .ok e => match convList dt t with
        | .error r => .error r
        | .ok es => .ok (e :: es) := by
  simp only [convList]
  cases convSc dt s <;> cases convList dt t <;> rfl

theorem convSc_error {dt : Bool} {s : Sc} {r : Res} (h : convSc dt s = .error r) : r.rejected = true := by
  cases s <;> cases dt <;> cases h <;> rfl

theorem convList_spec (dt : Bool) (l : List Sc) :
    match convList dt l with
    | .ok es => l.map (convSc dt) = es.map .ok
    | .error r => r.rejected = true := by
  induction l with
  | nil => rfl
  | cons s t ih =>
    rw [convList_cons]
    cases hs : convSc dt s with
    | error r => exact convSc_error hs
    | ok e =>
      cases ht : convList dt t with
      | error r => rw [ht] at ih; exact ih
      | ok es => rw [ht] at ih; show _ :: _ = _ :: _; rw [hs, ih]

theorem convSc_int {s : Sc} {e : El} (h : convSc true s = .ok e) : ∃ q : Rat, e = .fin q ∧ q.den = 1 := by
  cases s <;> cases h
  exact ⟨_, rfl, truncQ_den _⟩

/-- `checkScalar` sees its argument through `origEls` only: a 0-d argument has exactly one element, so the test
`es.length == 1` covers `zeroDim` -/
theorem checkScalar_arr (v : Val) (d : Option Nat) (fill dt : Bool) :
    checkScalar v d fill dt = checkScalar (.arr (origEls v)) d fill dt := by
  cases v with
  | sc s => simp only [checkScalar, origEls, convList_cons, convList]; cases convSc dt s <;> rfl
  | arr l => rfl
  | nested ll => rfl

/-- `hn`: with `fill` a single element is repeated `n` times, and must not be dropped -/
theorem checkScalar_ok {v : Val} {n : Nat} {fill dt : Bool} {es : List El} {sc : Bool} (hn : 0 < n)
    (h : checkScalar v (some n) fill dt = .ok es sc) :
    ((origEls v).length = 1 ∨ (origEls v).length = n) ∧ (origEls v).length ≤ es.length ∧
      (∀ e ∈ es, ∃ s ∈ origEls v, convSc dt s = .ok e) ∧ ∀ s ∈ origEls v, ∃ e ∈ es, convSc dt s = .ok e := by
  rw [checkScalar_arr] at h
  have hm := convList_spec dt (origEls v)
  simp only [checkScalar] at h
  cases hc : convList dt (origEls v) with
  | error r => rw [hc] at h hm; subst h; exact Bool.noConfusion hm
  | ok es0 =>
    rw [hc] at h hm
    have hl : (origEls v).length = es0.length := by simpa using congrArg List.length hm
    -- the decision after the conversion keeps the converted list `es0` or repeats its one element
    suffices h' : (es0.length = 1 ∨ es0.length = n) ∧ es0.length ≤ es.length ∧ ∀ e, e ∈ es ↔ e ∈ es0 by
      obtain ⟨h1, h2, h3⟩ := h'
      refine ⟨hl ▸ h1, hl ▸ h2, fun e he => ?_, fun s hs => ?_⟩
      · exact List.mem_map.mp (hm ▸ List.mem_map_of_mem (f := Except.ok) ((h3 e).mp he))
      · obtain ⟨e, he, hse⟩ := List.mem_map.mp (hm ▸ List.mem_map_of_mem (f := convSc dt) hs)
        exact ⟨e, (h3 e).mpr he, hse.symm⟩
    simp only [Except.map, Bool.false_or] at h
    split at h
    · obtain ⟨x, rfl⟩ := List.length_eq_one_iff.mp (beq_iff_eq.mp ‹_›)
      split at h
      · cases h
        exact ⟨.inl rfl, by rwa [List.length_replicate], fun e => by
          rw [List.mem_replicate, List.mem_singleton]; exact and_iff_right (Nat.ne_of_gt hn)⟩
      · cases h; exact ⟨.inl rfl, Nat.le_refl _, fun _ => Iff.rfl⟩
    · split at h
      · cases h
      · next hne => cases h; exact ⟨.inr (by simpa using hne), Nat.le_refl _, fun _ => Iff.rfl⟩

theorem checkScalarVariable_ok {v : Val} {az twoD dt : Bool} {es : List El} {sc : Bool}
    (h : checkScalarVariable v az twoD dt = .ok es sc) :
    checkScalar v (some (if twoD then 2 else 1)) twoD dt = .ok es sc ∧
      es.any (if az then El.ltZero else El.leZero) = false := by
  unfold checkScalarVariable at h
  split at h
  · rename_i es' sc' heq
    cases hany : es'.any (if az then El.ltZero else El.leZero) <;> simp [hany] at h
    obtain ⟨rfl, rfl⟩ := h
    exact ⟨heq, hany⟩
  · rename_i hne; exact absurd h (hne _ _)

theorem checkScalarVariable_ok_input {v : Val} {az twoD dt : Bool} {es : List El} {sc : Bool}
    (h : checkScalarVariable v az twoD dt = .ok es sc) :
    ((origEls v).length = 1 ∨ (origEls v).length = if twoD then 2 else 1) ∧
      ∀ s ∈ origEls v, ∃ e, convSc dt s = .ok e ∧ (if az then El.ltZero else El.leZero) e = false := by
  obtain ⟨h1, h2⟩ := checkScalarVariable_ok h
  obtain ⟨hl, -, -, hc⟩ := checkScalar_ok (by split <;> decide) h1
  refine ⟨hl, fun s hs => ?_⟩
  obtain ⟨e, he, hse⟩ := hc s hs
  exact ⟨e, hse, Bool.eq_false_iff.mpr (List.any_eq_false.mp h2 e he)⟩

theorem lam_ok_dom (v : Val) (twoD : Bool) (es : List El) (sc : Bool) (h : checkLam v false twoD = .ok es sc) :
    ∀ e ∈ es, e.leZero = false := fun e he =>
  Bool.eq_false_iff.mpr (List.any_eq_false.mp (checkScalarVariable_ok (show checkScalarVariable v false twoD false = .ok es sc from h)).2 e he)

/-- `output != half_window` is false at position `i`; a one-element `half_window` is broadcast -/
theorem sameAsInput_getD {es : List El} {v : Val} (h : sameAsInput es v = true) {i : Nat} (hi : i < es.length) :
    ∃ q, es.getD i .nan = .fin q ∧ (origEls v).getD (if (origEls v).length = 1 then 0 else i) .nan = .num q := by
  unfold sameAsInput at h
  have h' := List.all_eq_true.mp h i (List.mem_range.mpr hi)
  split at h'
  · next q q' h1 h2 =>
    obtain rfl : q = q' := by simpa using h'
    refine ⟨q, h1, ?_⟩
    split at h2
    · next hl => rw [if_pos (beq_iff_eq.mp hl)]; exact h2
    · next hl => rw [if_neg (by simpa using hl)]; exact h2
  · cases h'

theorem getD_num_mem {l : List Sc} {i : Nat} {q : Rat} (h : l.getD i .nan = .num q) : Sc.num q ∈ l := by
  by_cases hi : i < l.length
  · exact h ▸ getD_mem _ hi
  · rw [getD_of_le _ (Nat.le_of_not_lt hi)] at h; cases h

/-- position by position: the result is `fin q` where the argument (a single value is broadcast) is `num q`, and `q` is in
the domain; `halfWindow_ok` reads this on the result, `checkHalfWindow_ok_input` on the argument -/
theorem checkHalfWindow_ok {v : Val} {az twoD : Bool} {es : List El} {sc : Bool}
    (h : checkHalfWindow v az twoD = .ok es sc) :
    (origEls v).length ≤ es.length ∧ ∀ i < es.length, ∃ q : Rat, es.getD i .nan = .fin q ∧
      (origEls v).getD (if (origEls v).length = 1 then 0 else i) .nan = .num q ∧
      (if az then 0 ≤ q else 0 < q) ∧ q.den = 1 := by
  unfold checkHalfWindow at h
  split at h
  · next hv =>
    split at h
    · next hs =>
      cases h
      obtain ⟨h3, h4⟩ := checkScalarVariable_ok hv
      obtain ⟨-, hl, hr, -⟩ := checkScalar_ok (by split <;> decide) h3
      refine ⟨hl, fun i hi => ?_⟩
      obtain ⟨q, h1, h2⟩ := sameAsInput_getD hs hi
      -- as an element of the result, `fin q` is a conversion to integer that passed the sign test
      have he : El.fin q ∈ es := h1 ▸ getD_mem _ hi
      obtain ⟨_, _, hc⟩ := hr _ he
      obtain ⟨_, ⟨rfl⟩, hd⟩ := convSc_int hc
      refine ⟨q, h1, h2, ?_, hd⟩
      have := List.any_eq_false.mp h4 _ he
      cases az <;> simpa [El.leZero, El.ltZero, Rat.not_le, Rat.not_lt] using this
    · cases h
  · next hne => exact absurd h (hne _ _)

theorem halfWindow_ok (v : Val) (az twoD : Bool) (es : List El) (sc : Bool)
    (h : checkHalfWindow v az twoD = .ok es sc) :
    ∀ e ∈ es, ∃ q : Rat, e = .fin q ∧ (if az then 0 ≤ q else 0 < q) ∧ q.den = 1 ∧ (.num q) ∈ origEls v := by
  intro e he
  obtain ⟨i, hi, rfl⟩ := List.mem_iff_getElem.mp he
  obtain ⟨q, h1, h2, h3, h4⟩ := (checkHalfWindow_ok h).2 i hi
  exact ⟨q, (getD_of_lt _ hi).symm.trans h1, h3, h4, getD_num_mem h2⟩

theorem halfWindow_ok_dom (v : Val) (twoD : Bool) (es : List El) (sc : Bool)
    (h : checkHalfWindow v false twoD = .ok es sc) :
    ∀ e ∈ es, ∃ q : Rat, e = .fin q ∧ 0 < q ∧ q.den = 1 ∧ (.num q) ∈ origEls v :=
  halfWindow_ok v false twoD es sc h

theorem halfWindow_ok_dom_zero (v : Val) (twoD : Bool) (es : List El) (sc : Bool)
    (h : checkHalfWindow v true twoD = .ok es sc) :
    ∀ e ∈ es, ∃ q : Rat, e = .fin q ∧ 0 ≤ q ∧ q.den = 1 := fun e he =>
  let ⟨q, h1, h2, h3, _⟩ := halfWindow_ok v true twoD es sc h e he
  ⟨q, h1, h2, h3⟩

theorem checkHalfWindow_ok_input {v : Val} {az twoD : Bool} {es : List El} {sc : Bool}
    (h : checkHalfWindow v az twoD = .ok es sc) :
    ∀ s ∈ origEls v, ∃ q : Rat, s = .num q ∧ (if az then 0 ≤ q else 0 < q) ∧ q.den = 1 := by
  intro s hs
  obtain ⟨j, hj, rfl⟩ := List.mem_iff_getElem.mp hs
  obtain ⟨hl, hp⟩ := checkHalfWindow_ok h
  obtain ⟨q, -, h2, h3, h4⟩ := hp j (Nat.lt_of_lt_of_le hj hl)
  -- the result has a position `j`, compared with the argument's position `j`: a one-element argument has `j = 0`
  have hj' : (if (origEls v).length = 1 then 0 else j) = j := by split <;> omega
  rw [hj', getD_of_lt _ hj] at h2
  exact ⟨q, h2, h3, h4⟩

/-! ### arrays -/

theorem nonfinite_any_pos (pre post : List El) (e : El) (he : ∀ q, e ≠ .fin q) (s : List Nat) (e1 e2 td : Bool) :
    anyNonFinite (pre ++ e :: post) = true ∧
    checkArray s (anyNonFinite (pre ++ e :: post)) true e1 e2 td = .valueError := by
  have h1 : anyNonFinite (pre ++ e :: post) = true := by
    cases e with
    | fin q => exact absurd rfl (he q)
    | _ => simp [anyNonFinite]
  exact ⟨h1, by simp [checkArray, h1]⟩

theorem len_mismatch_rejected (n m : Nat) (h : n ≠ m) (nf cf : Bool) :
    checkSized [n] nf cf m = .valueError ∧ checkSized [n, 1] nf cf m = .valueError ∧ checkSized [1, n] nf cf m = .valueError := by
  cases nf <;> cases cf <;> simp [checkSized, checkArray, checkArrayShape, h]
theorem checkArray_valueError {s : List Nat} {e1 e2 td : Bool} (nf cf : Bool)
    (h : checkArrayShape s e1 e2 td = .valueError) : checkArray s nf cf e1 e2 td = .valueError := by
  rw [checkArray, h, ite_self]

/-- the flags are those of `_yx_arrays` (`ensure_1d`) and of `_yxz_arrays` (`ensure_2d`, `two_d`) -/
theorem data_dims_rejected (s : List Nat) (cf nf : Bool) :
    (s.length = 0 → checkArray s nf cf true false false = .typeError ∨ checkArray s nf cf true false false = .valueError) ∧
    (3 ≤ s.length → checkArray s nf cf true false false = .valueError) ∧
    (4 ≤ s.length → checkArray s nf cf false true true = .valueError) := by
  refine ⟨fun h => ?_, fun h => checkArray_valueError nf cf ?_, fun h => checkArray_valueError nf cf ?_⟩
  · have hs : checkArrayShape s true false false = .typeError := by
      unfold checkArrayShape
      exact if_pos (by omega)
    rw [checkArray, hs]
    split
    · exact .inr rfl
    · exact .inl rfl
  · have h1 : ¬ s.length < 1 := by omega
    have h2 : ¬ s.length = 2 := by omega
    have h3 : ¬ s.length = 1 := by omega
    simp [checkArrayShape, h1, h2, h3]
  · have h1 : ¬ s.length < 1 := by omega
    have h2 : ¬ s.length = 2 := by omega
    have h3 : ¬ s.length = 3 := by omega
    have h4 : ¬ s.length < 2 := by omega
    simp [checkArrayShape, h1, h2, h3, h4]

end PbVerif.Lemmas
