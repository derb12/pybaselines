import Mathlib.Analysis.Complex.Exponential
import PbVerif.Lemmas.Weighting
/-! C09: the hypotheses `TranscOk` placed on `exp`, `sqrt`, `|·|` are those of the real functions — the theorems of
Props/C09 are therefore not vacuous, and hold in particular for the real-number reading of `_weighting.py`. -/
namespace PbVerif.Lemmas
open PbVerif.Weighting

@[reducible] noncomputable def realTransc : Transc ℝ := ⟨Real.exp, Real.sqrt, fun x => |x|⟩

theorem realTranscOk : TranscOk realTransc where
  exp_pos := Real.exp_pos
  exp_mono := fun _ _ h => Real.exp_le_exp.mpr h
  exp_zero := Real.exp_zero
  sqrt_nonneg := Real.sqrt_nonneg
  sqrt_sq := fun _ h => Real.mul_self_sqrt h
  abs_eq := fun _ => rfl

end PbVerif.Lemmas
