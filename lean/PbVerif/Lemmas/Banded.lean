import PbVerif.Model.Banded
import PbVerif.Lemmas.ListAux
/-! Behind C11: the coefficients of `difference_matrix`, the band specification as the dense `D'D`, the hard-coded tables
at every width, `_lower_to_full` and `reset_diagonals`. -/
namespace PbVerif.Lemmas
open PbVerif.Banded

/-- forward difference; `fdiffIter d` is `np.diff(·, d, axis=0)` on one column -/
def fdiff (f : Nat → Int) (k : Nat) : Int := f (k+1) - f k
def fdiffIter : Nat → (Nat → Int) → (Nat → Int)
  | 0, f => f
  | d+1, f => fdiffIter d (fdiff f)

def rsum (N : Nat) (f : Nat → Int) : Int := ((List.range N).map f).sum

theorem rsum_zero (f : Nat → Int) : rsum 0 f = 0 := rfl
theorem rsum_succ (N : Nat) (f : Nat → Int) : rsum (N+1) f = rsum N f + f N := by
  simp [rsum, List.range_succ]
theorem rsum_succ' (N : Nat) (f : Nat → Int) : rsum (N+1) f = f 0 + rsum N (fun m => f (m+1)) := by
  simp [rsum, List.range_succ_eq_map, List.map_map, Function.comp_def]
theorem rsum_congr {N : Nat} {f g : Nat → Int} (h : ∀ m, m < N → f m = g m) : rsum N f = rsum N g := by
  unfold rsum
  congr 1
  apply List.map_congr_left
  intro m hm
  exact h m (List.mem_range.mp hm)
theorem rsum_eq_zero {N : Nat} {f : Nat → Int} (h : ∀ m, m < N → f m = 0) : rsum N f = 0 := by
  induction N with
  | zero => rfl
  | succ N ih =>
    rw [rsum_succ, ih (fun m hm => h m (by omega)), h N (by omega)]; rfl
theorem rsum_add (N : Nat) (f g : Nat → Int) : rsum N (fun m => f m + g m) = rsum N f + rsum N g := by
  induction N with
  | zero => rfl
  | succ N ih => rw [rsum_succ, rsum_succ, rsum_succ, ih]; omega
theorem rsum_by_parts (N : Nat) (c F : Nat → Int) :
    rsum N (fun m => c m * (F (m+1) - F m)) = c N * F N - c 0 * F 0 + rsum N (fun m => (c m - c (m+1)) * F (m+1)) := by
  induction N with
  | zero => rw [rsum_zero, rsum_zero]; omega
  | succ N ih => rw [rsum_succ, rsum_succ, ih, Int.mul_sub, Int.sub_mul]; omega
theorem rsum_eq_single {N : Nat} {f : Nat → Int} (j : Nat) (hj : j < N) (h : ∀ m, m < N → m ≠ j → f m = 0) : rsum N f = f j := by
  induction N with
  | zero => omega
  | succ N ih =>
    rw [rsum_succ]
    by_cases e : j = N
    · subst e
      rw [rsum_eq_zero fun m hm => h m (by omega) (by omega)]; omega
    · rw [ih (by omega) fun m hm => h m (by omega), h N (by omega) (Ne.symm e)]; omega

theorem coef_eq_zero (d m : Nat) (h : d < m) : coef d m = 0 := by
  induction d generalizing m with
  | zero =>
    cases m with
    | zero => omega
    | succ m => rfl
  | succ d ih =>
    cases m with
    | zero => omega
    | succ m =>
      simp only [coef]
      rw [ih m (by omega), ih (m+1) (by omega)]; rfl

/-! ### the coefficient loop of `difference_matrix` -/

theorem diffStep_map (L : Nat) (g : Nat → Int) :
    diffStep ((List.range (L+1)).map g) = (List.range L).map (fun p => g p - g (p+1)) := by
  unfold diffStep
  apply List.ext_getElem?
  intro p
  by_cases hp : p < L
  · simp [hp]
  · rw [List.getElem?_eq_none (by simp; omega), List.getElem?_eq_none (by simp; omega)]

/-- entry p of the coefficient vector after j steps (`coef j` vanishes past `j`, which takes care of `p > d`) -/
def iterEnt (d j p : Nat) : Int := if d ≤ p + j then coef j (p + j - d) else 0

theorem iterEnt_of_add {d j p q : Nat} (h : p + j = d + q) : iterEnt d j p = coef j q := by
  rw [iterEnt, if_pos (h ▸ Nat.le_add_right d q), h, Nat.add_sub_cancel_left]

theorem iterEnt_step (d j p : Nat) : iterEnt d (j+1) p = iterEnt d j p - iterEnt d j (p+1) := by
  by_cases h : d ≤ p + j
  · -- `coef (j+1) (q+1) = coef j q − coef j (q+1)`
    obtain ⟨q, hq⟩ := Nat.exists_eq_add_of_le h
    rw [iterEnt_of_add (q := q + 1) (by omega), iterEnt_of_add hq, iterEnt_of_add (q := q + 1) (by omega)]
    rfl
  · by_cases h2 : p + j + 1 = d
    · -- the first non-zero entry: `coef (j+1) 0 = − coef j 0`
      rw [iterEnt_of_add (q := 0) (by omega), iterEnt, if_neg h, iterEnt_of_add (q := 0) (by omega), Int.zero_sub]
      rfl
    · rw [iterEnt, if_neg (by omega), iterEnt, if_neg h, iterEnt, if_neg (by omega)]; rfl

theorem diffUnit_eq_iterEnt (d : Nat) :
    (List.replicate d 0) ++ [1] ++ (List.replicate d 0) = (List.range (2*d+1)).map (iterEnt d 0) := by
  have hl : ((List.replicate d (0:Int)) ++ [1] ++ (List.replicate d 0)).length = 2 * d + 1 := by
    rw [List.length_append, List.length_append, List.length_replicate, List.length_singleton]; omega
  refine ext_getD 0 (by rw [hl, List.length_map, List.length_range]) fun p hp => ?_
  rw [getD_range_map _ 0 (hl ▸ hp), iterEnt, Nat.add_zero, getD_append, getD_append, List.length_append,
    List.length_replicate, List.length_singleton, getD_replicate, getD_replicate]
  by_cases h1 : p < d
  · rw [if_pos (by omega), if_pos h1, if_pos h1, if_neg (by omega)]
  · rw [if_pos (Nat.le_of_not_lt h1)]
    by_cases h2 : p = d
    · subst h2; rw [if_pos (by omega), if_neg h1, Nat.sub_self]; rfl
    · rw [if_neg (by omega), coef_eq_zero 0 (p - d) (by omega)]
      split <;> rfl

theorem diffIter_map (j L : Nat) (G : Nat → Nat → Int) (hG : ∀ j p, G (j+1) p = G j p - G j (p+1)) :
    diffIter j ((List.range (L + j)).map (G 0)) = (List.range L).map (G j) := by
  induction j generalizing G with
  | zero => rfl
  | succ j ih =>
    rw [diffIter, ← Nat.add_assoc, diffStep_map]
    simp only [← hG 0]
    exact ih (fun j => G (j + 1)) fun j => hG (j + 1)

/-! ### `D'D` -/

/-- a sum whose terms vanish unless `k ≤ i ≤ k + d`, re-indexed by `m = i - k ≤ d` -/
theorem rsum_window (N d i : Nat) (F : Nat → Int) (hF : ∀ k, ¬ (k ≤ i ∧ i ≤ k + d) → F k = 0) :
    rsum N F = rsum (d+1) (fun m => if m ≤ i ∧ i - m < N then F (i - m) else 0) := by
  induction N with
  | zero =>
    rw [rsum_zero, rsum_eq_zero]
    intro m _
    rw [if_neg (by omega)]
  | succ N ih =>
    rw [rsum_succ, ih]
    have e : rsum (d+1) (fun m => if m ≤ i ∧ i - m < N + 1 then F (i - m) else 0)
        = rsum (d+1) (fun m => (if m ≤ i ∧ i - m < N then F (i - m) else 0)
            + (if m ≤ i ∧ i - m = N then F N else 0)) := by
      apply rsum_congr
      intro m _
      by_cases h1 : m ≤ i ∧ i - m < N
      · rw [if_pos h1, if_pos (by omega), if_neg (by omega)]; omega
      · by_cases h2 : m ≤ i ∧ i - m = N
        · rw [if_neg h1, if_pos h2, if_pos (by omega), h2.2]; omega
        · rw [if_neg h1, if_neg h2, if_neg (by omega)]; rfl
    rw [e, rsum_add]
    congr 1
    by_cases hN : N ≤ i ∧ i ≤ N + d
    · rw [rsum_eq_single (i - N) (by omega) fun m _ hm => if_neg (by omega), if_pos (by omega)]
    · rw [hF N hN, rsum_eq_zero]
      intro m _
      split <;> rfl

theorem Dent_sub (d i m t : Nat) (h : m ≤ i) : Dent d (i - m) (i + t) = if m + t ≤ d then coef d (m + t) else 0 := by
  unfold Dent
  rw [show i + t - (i - m) = m + t by omega]
  by_cases ht : m + t ≤ d
  · rw [if_pos ⟨by omega, ht⟩, if_pos ht]
  · rw [if_neg (fun h' => ht h'.2), if_neg ht]

theorem dtdOff_eq_DtD (n d i t : Nat) : dtdOff n d i t = DtD n d i (i + t) := by
  show rsum (d+1) _ = rsum (n - d) (fun k => Dent d k i * Dent d k (i + t))
  rw [rsum_window (n - d) d i (fun k => Dent d k i * Dent d k (i + t))]
  · apply rsum_congr
    intro m hm
    by_cases h1 : m ≤ i ∧ i - m + d < n
    · rw [if_pos (show m ≤ i ∧ i - m < n - d by omega), show Dent d (i - m) i = _ from Dent_sub d i m 0 h1.1,
        Dent_sub d i m t h1.1, if_pos (show m + 0 ≤ d by omega)]
      by_cases h3 : m + t ≤ d
      · rw [if_pos h3, if_pos ⟨h1.1, h1.2, h3⟩]; rfl
      · rw [if_neg h3, if_neg (fun h' => h3 h'.2.2), Int.mul_zero]
    · rw [if_neg (by omega), if_neg (by omega)]
  · intro k hk
    unfold Dent
    rw [if_neg (c := k ≤ i ∧ i - k ≤ d) (by omega), Int.zero_mul]

theorem DtD_symm (n d i j : Nat) : DtD n d i j = DtD n d j i := by
  unfold DtD
  congr 1
  apply List.map_congr_left
  intro k _
  exact Int.mul_comm _ _

theorem DtD_band (n d i j : Nat) (h : i + d < j ∨ j + d < i) : DtD n d i j = 0 := by
  apply rsum_eq_zero
  intro k _
  unfold Dent
  by_cases hk : k ≤ i ∧ i - k ≤ d
  · rw [if_neg (c := k ≤ j ∧ j - k ≤ d) (by omega), Int.mul_zero]
  · rw [if_neg hk, Int.zero_mul]

theorem specLower_eq (n d r c : Nat) (h : c + r < n) : specLower n d r c = DtD n d (c + r) c := by
  rw [specLower, if_pos h, dtdOff_eq_DtD, DtD_symm]

theorem specFull_eq (n d r i j : Nat) (hr : r + j = d + i) (hi : i < n) : specFull n d r j = DtD n d i j := by
  unfold specFull
  by_cases h : d ≤ r
  · obtain ⟨k, rfl⟩ := Nat.exists_eq_add_of_le h
    obtain rfl : i = j + k := by omega
    rw [if_pos h, Nat.add_sub_cancel_left, specLower_eq n d k j hi]
  · obtain ⟨s, rfl⟩ := Nat.exists_eq_add_of_le (Nat.le_of_not_le h)
    obtain rfl : j = i + s := by omega
    rw [if_neg h, Nat.add_sub_cancel_left, if_pos (Nat.le_add_left s i), Nat.add_sub_cancel, dtdOff_eq_DtD]

/-! ### clamp invariance

A slice bound `b` with `|b| ≤ K` and the band specification of order `K` see a column `c` of an `n`-wide array only through
its distances to the two ends, each capped at `K` (`SameEnds`); `clamp K n n'` keeps both. So a table with bounds up to `d`
agrees with the specification of order `d` at every width `≥ 2d+1` as soon as it does at one such width. -/

def SameEnds (K n c n' c' : Nat) : Prop := ∀ k, k ≤ K → (k ≤ c ↔ k ≤ c') ∧ (c + k < n ↔ c' + k < n')

theorem clamp_sameEnds {K n n' c : Nat} (hn : 2 * K + 1 ≤ n) (hn' : 2 * K + 1 ≤ n') (hc : c < n) :
    SameEnds K n c n' (clamp K n n' c) := by
  intro k hk
  unfold clamp; split <;> (try split) <;> omega

theorem normB_le_iff (b : Int) {n c : Nat} (hc : c < n) :
    normB b n ≤ c ↔ if 0 ≤ b then b.natAbs ≤ c else ¬ c + b.natAbs < n := by
  unfold normB
  split <;> omega

theorem SameEnds.lt_iff {K n c n' c' : Nat} (h : SameEnds K n c n' c') : c < n ↔ c' < n' := (h 0 (Nat.zero_le K)).2

theorem SameEnds.normB_le {K n c n' c' : Nat} (h : SameEnds K n c n' c') (hc : c < n) {b : Int} (hb : -(K:Int) ≤ b ∧ b ≤ K) :
    normB b n ≤ c ↔ normB b n' ≤ c' := by
  rw [normB_le_iff b hc, normB_le_iff b (h.lt_iff.mp hc)]
  split
  · exact (h b.natAbs (by omega)).1
  · exact not_congr (h b.natAbs (by omega)).2

theorem SameEnds.covers {K n c n' c' : Nat} (h : SameEnds K n c n' c') (hc : c < n) {a : Assign} (ha : a.boundedB K = true)
    (rows r : Nat) : covers a rows n r c = covers a rows n' r c' := by
  have hc' := h.lt_iff.mp hc
  unfold Assign.boundedB at ha
  unfold Banded.covers
  cases hl : a.lo with
  | none =>
    cases hh : a.hi with
    | none => simp [hc, hc']
    | some bh =>
      simp [hl, hh] at ha
      simp [← Int.not_le, h.normB_le hc ha]
  | some bl =>
    cases hh : a.hi with
    | none =>
      simp [hl, hh] at ha
      simp [hc, hc', h.normB_le hc ha]
    | some bh =>
      simp [hl, hh] at ha
      simp [← Int.not_le, h.normB_le hc ha.1, h.normB_le hc ha.2]

theorem SameEnds.bandAt {K n c n' c' : Nat} (h : SameEnds K n c n' c') (hc : c < n) (init : Int) {tbl : List Assign}
    (ht : tbl.all (Assign.boundedB K) = true) (rows r : Nat) :
    bandAt init tbl rows n r c = bandAt init tbl rows n' r c' :=
  foldl_congr_mem _ _ tbl (fun acc a ha => by rw [h.covers hc (List.all_eq_true.mp ht a ha) rows r]) init

theorem bandAt_clamp (K : Nat) (init : Int) (tbl : List Assign) (ht : tbl.all (Assign.boundedB K) = true)
    (rows n n' r c : Nat) (hn : 2 * K + 1 ≤ n) (hn' : 2 * K + 1 ≤ n') (hc : c < n) :
    bandAt init tbl rows n r c = bandAt init tbl rows n' r (clamp K n n' c) :=
  (clamp_sameEnds hn hn' hc).bandAt hc init ht rows r

/-- the window guard of `dtdOff` at `i = c - s`, from two `SameEnds` comparisons of `c` (at distances `m + s` and `e`) -/
theorem dtdOff_window_iff (n n' d i i' s m e : Nat) (he : e + (m + s) = d)
    (h1 : m + s ≤ i + s ↔ m + s ≤ i' + s) (h2 : i + s + e < n ↔ i' + s + e < n') :
    (m ≤ i ∧ i - m + d < n) ↔ (m ≤ i' ∧ i' - m + d < n') := by
  omega

/-- `s = 0` is the entry of lower band `t` in column `c = i + s`, `s = t` that of upper band `t` -/
theorem SameEnds.dtdOff {d n n' i i' s t : Nat} (h : SameEnds d n (i + s) n' (i' + s)) (hs : s ≤ t) :
    dtdOff n d i t = dtdOff n' d i' t := by
  unfold Banded.dtdOff
  congr 1
  apply List.map_congr_left
  intro m _
  by_cases ht : m + t ≤ d
  · have hms : m + s ≤ d := Nat.le_trans (Nat.add_le_add_left hs m) ht
    simp only [← and_assoc, dtdOff_window_iff n n' d i i' s m _ (Nat.sub_add_cancel hms) (h (m + s) hms).1
      (h (d - (m + s)) (Nat.sub_le _ _)).2]
  · rw [if_neg (fun h => ht h.2.2), if_neg (fun h => ht h.2.2)]

theorem SameEnds.specLower {d n c n' c' r : Nat} (h : SameEnds d n c n' c') (hr : r ≤ d) :
    specLower n d r c = specLower n' d r c' := by
  unfold Banded.specLower
  simp only [h.dtdOff (i := c) (i' := c') (s := 0) (Nat.zero_le r), (h r hr).2]

theorem SameEnds.specFull {d n c n' c' r : Nat} (h : SameEnds d n c n' c') (hr : r ≤ 2 * d) :
    specFull n d r c = specFull n' d r c' := by
  have hle := (h (d - r) (Nat.sub_le _ _)).1
  unfold Banded.specFull
  split
  · exact h.specLower (by omega)
  · simp only [← hle]
    split
    · next hs =>
      refine SameEnds.dtdOff ?_ (Nat.le_refl _)
      rwa [Nat.sub_add_cancel hs, Nat.sub_add_cancel (hle.mp hs)]
    · rfl

theorem rows_eq_iff {α} {R n : Nat} {f g : Nat → Nat → α} :
    ((List.range R).map fun r => (List.range n).map fun c => f r c) = ((List.range R).map fun r => (List.range n).map fun c => g r c)
      ↔ ∀ r, r < R → ∀ c, c < n → f r c = g r c := by
  simp only [List.map_inj_left, List.mem_range]

/-- a generated table and any family `g n` of arrays whose entries see the column only through `SameEnds`: equal at the width
`2K+1`, they are equal at every larger width -/
theorem toRows_eq_of_mid (t : DiagTable) (K : Nat) (hb : t.assigns.all (Assign.boundedB K) = true) (lo : Bool)
    {R : Nat} {g : Nat → Nat → Nat → Int} (hg : ∀ {n c n' c'} r, r < R → SameEnds K n c n' c' → g n r c = g n' r c')
    (hmid : t.toRows lo (2 * K + 1) = (List.range R).map fun r => (List.range (2 * K + 1)).map fun c => g (2 * K + 1) r c)
    {n : Nat} (hn : 2 * K + 1 ≤ n) :
    t.toRows lo n = (List.range R).map fun r => (List.range n).map fun c => g n r c := by
  have hact : (t.active lo).all (Assign.boundedB K) = true := by
    rw [List.all_eq_true] at hb ⊢
    exact fun a ha => hb a (List.mem_filter.mp ha).1
  obtain rfl : t.rows lo = R := by
    rw [← List.length_range (n := t.rows lo), ← List.length_map, ← DiagTable.toRows, hmid, List.length_map, List.length_range]
  rw [DiagTable.toRows, rows_eq_iff] at hmid ⊢
  intro r hr c hc
  -- entry `(r, c)` at width `n` is, on either side, entry `(r, clamp c)` at width `2K+1`
  have h := clamp_sameEnds hn (Nat.le_refl _) hc
  rw [DiagTable.at, h.bandAt hc _ hact, hg r hr h]
  exact hmid r hr _ (h.lt_iff.mp hc)

theorem table_eq_spec_of_mid (t : DiagTable) (d : Nat) (hb : t.assigns.all (Assign.boundedB d) = true)
    (hmid : ∀ lo : Bool, t.toRows lo (2 * d + 1) = specRows (2 * d + 1) d lo) :
    ∀ n, 2 * d + 1 ≤ n → ∀ lo : Bool, t.toRows lo n = specRows n d lo := by
  intro n hn lo
  cases lo
  · exact toRows_eq_of_mid t d hb false (g := fun n => specFull n d) (fun r hr h => h.specFull (Nat.le_of_lt_succ hr)) (hmid false) hn
  · exact toRows_eq_of_mid t d hb true (g := fun n => specLower n d) (fun r hr h => h.specLower (Nat.le_of_lt_succ hr)) (hmid true) hn

/-! ### layout conversions -/

/-- `shiftRight` and `shiftRightQ`: a row shifted right by `s` -/
theorem getD_replicate_append_take {α} (z : α) (s : Nat) (row : List α) (c : Nat) :
    (List.replicate (min s row.length) z ++ row.take (row.length - s)).getD c z
      = if c < s ∨ row.length ≤ c then z else row.getD (c - s) z := by
  rw [getD_append, List.length_replicate, getD_replicate]
  by_cases h : c < s ∨ row.length ≤ c
  · rw [if_pos h]
    split
    · rfl
    · exact getD_of_le z (by rw [List.length_take]; omega)
  · rw [if_neg h, if_neg (by omega), Nat.min_eq_left (by omega), getD_take_of_lt row z (by omega)]

theorem shiftRight_specLower (n d s : Nat) (hs0 : 0 < s) (hs : s ≤ d) :
    shiftRight s ((List.range n).map fun c => specLower n d s c)
      = (List.range n).map fun c => specFull n d (d - s) c := by
  refine ext_getD 0 (by simp [shiftRight]; omega) fun c hc => ?_
  rw [shiftRight, getD_replicate_append_take, List.length_map, List.length_range, getD_range_map_if, getD_range_map_if]
  unfold specFull
  rw [if_neg (show ¬ d ≤ d - s by omega), show d - (d - s) = s by omega]
  by_cases hcn : c < n
  · by_cases h : c < s
    · rw [if_pos (Or.inl h), if_pos hcn, if_neg (by omega)]
    · rw [if_neg (by omega), if_pos (by omega), if_pos hcn, if_pos (by omega), specLower, if_pos (by omega)]
  · rw [if_pos (Or.inr (by omega)), if_neg hcn]

/-- `_lower_to_full` on `u + 1` lower bands; `lowerToFull` and `lowerToFullQ` are the instances `sh = shiftRight`, `shiftRightQ` -/
theorem getD_flipUpper {α} (sh : Nat → List α → List α) (ab : List (List α)) (u t : Nat) (h : ab.length = u + 1) :
    ((ab.tail.reverse.zipIdx.map fun (p : List α × Nat) => sh (ab.length - 1 - p.2) p.1) ++ ab).getD t []
      = if t < u then sh (u - t) (ab.getD (u - t) []) else ab.getD (t - u) [] := by
  have hl : ab.tail.reverse.length = u := by rw [List.length_reverse, List.length_tail, h, Nat.add_sub_cancel]
  rw [getD_append, List.length_map, List.length_zipIdx, hl]
  split
  · next ht =>
    rw [getD_map_of_lt _ ([], 0) [] (by rw [List.length_zipIdx, hl]; exact ht), getD_zipIdx _ [] t (by rw [hl]; exact ht)]
    rw [getD_reverse, List.length_tail, h, Nat.add_sub_cancel, if_pos ht, ← List.drop_one, getD_drop,
      show 1 + (u - 1 - t) = u - t by omega]
  · rfl

theorem drop_full_eq_lower (n d : Nat) : (specRows n d false).drop d = specRows n d true := by
  simp only [specRows, Bool.false_eq_true, if_false, if_true]
  refine ext_getD [] (by rw [List.length_drop, List.length_map, List.length_range, List.length_map, List.length_range]; omega)
    fun k hk => ?_
  have hk' : k < d + 1 := by rw [List.length_drop, List.length_map, List.length_range] at hk; omega
  rw [getD_drop, getD_range_map _ [] (by omega), getD_range_map _ [] hk']
  refine List.map_congr_left fun c _ => ?_
  rw [specFull, if_pos (Nat.le_add_right d k), Nat.add_sub_cancel_left]

theorem lowerToFull_spec (n d : Nat) : lowerToFull (specRows n d true) = specRows n d false := by
  have hl : (specRows n d true).length = d + 1 := by simp only [specRows, if_true, List.length_map, List.length_range]
  have hf : (specRows n d false).length = 2 * d + 1 := by
    simp only [specRows, Bool.false_eq_true, if_false, List.length_map, List.length_range]
  have hlen : (lowerToFull (specRows n d true)).length = 2 * d + 1 := by
    simp only [lowerToFull, List.length_append, List.length_map, List.length_zipIdx, List.length_reverse, List.length_tail, hl]
    omega
  refine ext_getD [] (hlen.trans hf.symm) fun t ht => ?_
  rw [show (lowerToFull (specRows n d true)).getD t [] = _ from getD_flipUpper shiftRight (specRows n d true) d t hl]
  rw [hlen] at ht
  simp only [specRows, if_true, Bool.false_eq_true, if_false]
  rw [getD_range_map _ [] ht]
  split
  · next h =>
    rw [getD_range_map _ [] (by omega), shiftRight_specLower n d (d - t) (by omega) (by omega), Nat.sub_sub_self (Nat.le_of_lt h)]
  · next h =>
    rw [getD_range_map _ [] (by omega)]
    refine List.map_congr_left fun c _ => ?_
    rw [specFull, if_pos (by omega)]

theorem reset_fresh (n : Nat) (hp : Bool) (c' c : Cfg) : reset (fresh n hp c') c = fresh n hp c := by
  dsimp only [fresh, reset, initSys, freshOrig, penaltyDiags]
  by_cases hd : c'.diffOrder = c.diffOrder
  · -- same order: `reset_diagonals` un-reverses what is stored, converts lower ↔ full and reverses again if asked; on
    -- specification rows the conversions are `lowerToFull_spec` and `drop_full_eq_lower`, whatever the three flags
    cases reversedOf hp c' <;> cases lowerOf hp c' <;> cases hlo : lowerOf hp c <;>
      simp [lowerToFull_spec, drop_full_eq_lower, hd]
  · simp [hd]

theorem reset_eq_fresh (n : Nat) (hp : Bool) (cs : List Cfg) (c : Cfg) :
    reset (cs.foldl reset (initSys n hp)) c = fresh n hp c := by
  rcases foldl_keeps (fun s : PSys => s = initSys n hp ∨ ∃ c', s = fresh n hp c') reset cs
    (fun s c h => Or.inr ⟨c, by rcases h with rfl | ⟨c', rfl⟩; rfl; exact reset_fresh n hp c' c⟩) (initSys n hp) (Or.inl rfl)
    with h | ⟨c', h⟩
  · rw [h]; rfl
  · rw [h, reset_fresh]

end PbVerif.Lemmas
