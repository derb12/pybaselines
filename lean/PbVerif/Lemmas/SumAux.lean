import Mathlib.Algebra.BigOperators.Group.Finset.Basic
import Mathlib.Algebra.Ring.Rat
import PbVerif.Lemmas.ListAux
/-! The models sum with `foldl (· + ·) 0` (`sumL` in `Kron`, `Pad`, `Poly`, `Whittaker`), over a mapped `List.range`, over a
list read by position, over a `zipWith` of products; the proofs sum over `Finset.range`. At the end: a sum over a row-major
index is a double sum. -/
namespace PbVerif.Lemmas
open Finset

theorem foldl_add_range (n : Nat) (f : Nat → Rat) : ((List.range n).map f).foldl (· + ·) 0 = ∑ i ∈ range n, f i := by
  rw [foldl_add_eq_sum, zero_add]
  rfl

theorem foldl_add_getD (l : List Rat) : l.foldl (· + ·) 0 = ∑ i ∈ range l.length, l.getD i 0 := by
  rw [← foldl_add_range, map_getD_range]

theorem foldl_add_zipWith_mul (a b : List Rat) (n : Nat) (ha : a.length = n) (hb : b.length = n) :
    (List.zipWith (· * ·) a b).foldl (· + ·) 0 = ∑ k ∈ range n, a.getD k 0 * b.getD k 0 := by
  rw [foldl_add_getD, List.length_zipWith, ha, hb, Nat.min_self]
  exact sum_congr rfl fun k _ => getD_zipWith _ a b 0 k zero_mul mul_zero

theorem sum_range_mul {α : Type*} [AddCommMonoid α] (M N : Nat) (f : Nat → α) :
    ∑ b ∈ range (M * N), f b = ∑ i ∈ range M, ∑ j ∈ range N, f (i * N + j) := by
  induction M with
  | zero => simp
  | succ M ih => rw [Nat.succ_mul, sum_range_add, ih, sum_range_succ]

end PbVerif.Lemmas
