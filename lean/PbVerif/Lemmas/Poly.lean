import Mathlib.Data.Nat.Choose.Sum
import PbVerif.Lemmas.SumAux
import PbVerif.Model.Poly
/-! Lemmas for C08: the list model read as `Finset` sums of functions, the domain-transform matrix as
the binomial expansion of `((x − offset)/scale)^j`, and the weighted Pythagoras identity behind the
normal equations. -/
namespace PbVerif.Lemmas
open PbVerif.Poly

theorem Poly.sumL_eq_sum (l : List Rat) : sumL l = l.sum := by
  rw [sumL, foldl_add_eq_sum, zero_add]

theorem sumL_range_map (n : Nat) (f : Nat → Rat) : sumL ((List.range n).map f) = ∑ i ∈ Finset.range n, f i :=
  foldl_add_range n f

theorem sumL_eq_range (l : List Rat) : sumL l = ∑ i ∈ Finset.range l.length, l.getD i 0 :=
  foldl_add_getD l

theorem evalPoly_eq (c : List Rat) (x : Rat) :
    evalPoly c x = ∑ j ∈ Finset.range c.length, c.getD j 0 * x ^ j := by
  unfold evalPoly; rw [sumL_range_map]

theorem evalPoly_range_map (n : Nat) (f : Nat → Rat) (x : Rat) :
    evalPoly ((List.range n).map f) x = ∑ i ∈ Finset.range n, f i * x ^ i := by
  rw [evalPoly_eq, List.length_map, List.length_range]
  exact Finset.sum_congr rfl fun i hi => by rw [getD_range_map _ _ (Finset.mem_range.1 hi)]

theorem evalPoly_pad (c : List Rat) (n : Nat) (hc : c.length ≤ n) (x : Rat) :
    evalPoly c x = ∑ j ∈ Finset.range n, c.getD j 0 * x ^ j := by
  rw [evalPoly_eq]
  refine Finset.sum_subset (Finset.range_subset_range.2 hc) fun j _ hj => ?_
  rw [Finset.mem_range] at hj
  rw [getD_of_le 0 (by omega), zero_mul]

theorem evalPoly2_eq (c : List (List Rat)) (x z : Rat) :
    evalPoly2 c x z = ∑ i ∈ Finset.range c.length, evalPoly (c.getD i []) z * x ^ i := by
  unfold evalPoly2; rw [sumL_range_map]
  exact Finset.sum_congr rfl fun i _ => mul_comm _ _

theorem evalPoly2_range_map (n m : Nat) (f : Nat → Nat → Rat) (x z : Rat) :
    evalPoly2 ((List.range n).map fun i => (List.range m).map (f i)) x z =
      ∑ i ∈ Finset.range n, (∑ j ∈ Finset.range m, f i j * z ^ j) * x ^ i := by
  rw [evalPoly2_eq, List.length_map, List.length_range]
  exact Finset.sum_congr rfl fun i hi => by
    rw [getD_range_map _ _ (Finset.mem_range.1 hi), evalPoly_range_map]

theorem binom_eq_choose (n k : Nat) : binom n k = Nat.choose n k := by
  induction n generalizing k with
  | zero => cases k <;> simp [binom]
  | succ n ih =>
    cases k with
    | zero => simp [binom]
    | succ k => simp [binom, ih, Nat.choose_succ_succ]

theorem binom_eq_zero (n k : Nat) (h : n < k) : binom n k = 0 := by
  rw [binom_eq_choose]; exact Nat.choose_eq_zero_of_lt h

/-- the `offset == 0` branch of `_poly_transform_matrix` is the general entry with `0⁰ = 1`; below the diagonal the
binomial coefficient vanishes -/
theorem polyTransformAt_eq (offset scale : Rat) (i j : Nat) :
    polyTransformAt offset scale i j =
      if i ≤ j then (Nat.choose j i : Rat) * (1 / scale) ^ j * (-offset) ^ (j - i) else 0 := by
  unfold polyTransformAt
  rw [binom_eq_choose]
  by_cases hle : i ≤ j
  · rw [if_pos hle, if_pos hle]
    by_cases ho : offset = 0
    · subst ho
      rw [if_pos rfl, neg_zero]
      by_cases hji : j = i
      · subst hji; rw [if_pos rfl, Nat.sub_self, pow_zero, mul_one]
      · rw [if_neg hji, zero_pow (by omega), mul_zero]
    · rw [if_neg ho]
  · have hji : j ≠ i := by omega
    simp only [if_neg hle, if_neg hji, Nat.choose_eq_zero_of_lt (not_le.1 hle), Nat.cast_zero, zero_mul,
      ite_self]

theorem polyTransformAt_zero_of_lt (offset scale : Rat) (i k : Nat) (h : k < i) :
    polyTransformAt offset scale i k = 0 := by
  rw [polyTransformAt_eq, if_neg (by omega)]

theorem transform_col (offset scale x : Rat) (n j : Nat) (hj : j < n) :
    ∑ i ∈ Finset.range n, polyTransformAt offset scale i j * x ^ i = ((x - offset) / scale) ^ j := by
  rw [← Finset.sum_subset (Finset.range_subset_range.2 hj)]
  · rw [div_pow, sub_eq_add_neg, add_pow, div_eq_mul_one_div, Finset.sum_mul]
    apply Finset.sum_congr rfl
    intro i hi
    rw [Finset.mem_range] at hi
    rw [polyTransformAt_eq, if_pos (by omega), one_div_pow]
    ring
  · intro i _ hi
    rw [Finset.mem_range] at hi
    rw [polyTransformAt_eq, if_neg (by omega), zero_mul]

theorem transform_sum (offset scale x : Rat) (n : Nat) (f : Nat → Rat) :
    ∑ i ∈ Finset.range n, (∑ j ∈ Finset.range n, polyTransformAt offset scale i j * f j) * x ^ i =
      ∑ j ∈ Finset.range n, f j * ((x - offset) / scale) ^ j := by
  simp only [Finset.sum_mul]
  rw [Finset.sum_comm]
  apply Finset.sum_congr rfl
  intro j hj
  rw [← transform_col offset scale x n j (Finset.mem_range.1 hj), Finset.mul_sum]
  apply Finset.sum_congr rfl
  intro i _
  ring

/-- `transform_sum` in `z` under a combination `a` of rows: the `z` half of `T_x C T_z'` -/
theorem transform_sum_rows (offset scale z : Rat) (n m : Nat) (a : Nat → Rat) (f : Nat → Nat → Rat) :
    ∑ j ∈ Finset.range m, (∑ k ∈ Finset.range n, ∑ l ∈ Finset.range m,
        a k * f k l * polyTransformAt offset scale j l) * z ^ j =
      ∑ k ∈ Finset.range n, a k * ∑ l ∈ Finset.range m, f k l * ((z - offset) / scale) ^ l := by
  simp only [← transform_sum offset scale z m, Finset.sum_mul, Finset.mul_sum]
  rw [Finset.sum_comm]
  exact Finset.sum_congr rfl fun k _ => Finset.sum_congr rfl fun j _ => Finset.sum_congr rfl fun l _ => by ring

theorem convertCoef_eval (c : List Rat) (offset scale x : Rat) (hs : scale ≠ 0) :
    evalPoly (convertCoef c offset scale) x = evalPoly c ((x - offset) / scale) := by
  -- `hs` is the precondition of the Python code only: with `x / 0 = 0` the identity survives `scale = 0`
  unfold convertCoef
  rw [evalPoly_range_map, evalPoly_eq]
  simp only [sumL_range_map]
  exact transform_sum offset scale x c.length _

theorem convertCoef2d_length (c : List (List Rat)) (ox sx oz sz : Rat) :
    (convertCoef2d c ox sx oz sz).length = c.length := by
  simp only [convertCoef2d, List.length_map, List.length_range]

theorem convertCoef2d_row (c : List (List Rat)) (ox sx oz sz : Rat) (i : Nat) (hi : i < c.length) :
    (convertCoef2d c ox sx oz sz).getD i [] = (List.range (c.getD 0 []).length).map fun j =>
      ∑ k ∈ Finset.range c.length, ∑ l ∈ Finset.range (c.getD 0 []).length,
        polyTransformAt ox sx i k * (c.getD k []).getD l 0 * polyTransformAt oz sz j l := by
  unfold convertCoef2d
  simp only [sumL_range_map]
  rw [getD_range_map _ _ hi]

/-- `transform_sum` in `x` over `transform_sum_rows` in `z`; `hsx`, `hsz` are like `hs` in `convertCoef_eval` -/
theorem convertCoef2d_eval (c : List (List Rat)) (nz : Nat) (hrect : ∀ row ∈ c, row.length = nz)
    (ox sx oz sz x z : Rat) (hsx : sx ≠ 0) (hsz : sz ≠ 0) :
    evalPoly2 (convertCoef2d c ox sx oz sz) x z = evalPoly2 c ((x - ox) / sx) ((z - oz) / sz) := by
  have hlen : ∀ k, k < c.length → (c.getD k []).length = nz := fun k hk => hrect _ (getD_mem [] hk)
  rw [evalPoly2_eq, evalPoly2_eq, convertCoef2d_length, ← transform_sum ox sx x]
  refine Finset.sum_congr rfl fun i hi => ?_
  rw [Finset.mem_range] at hi
  rw [convertCoef2d_row c ox sx oz sz i hi, evalPoly_range_map, hlen 0 (by omega), transform_sum_rows]
  exact congrArg (· * x ^ i) (Finset.sum_congr rfl fun k hk => by
    rw [evalPoly_eq, hlen k (Finset.mem_range.1 hk)])

/-- Pythagoras for the weighted residual under the normal equations; rows `s` and columns `t` are any finite sets
(all of `Fin n`, `Fin k` in C08; initial segments of ℕ for the local systems of LOESS, C19) -/
theorem ls_expand {ι κ : Type*} (s : Finset ι) (t : Finset κ) (A : ι → κ → Rat) (w b : ι → Rat) (c c' : κ → Rat)
    (hne : ∀ j ∈ t, ∑ i ∈ s, w i * A i j * (b i - ∑ l ∈ t, A i l * c l) = 0) :
    ∑ i ∈ s, w i * (b i - ∑ l ∈ t, A i l * c' l) ^ 2 =
      ∑ i ∈ s, w i * (b i - ∑ l ∈ t, A i l * c l) ^ 2 + ∑ i ∈ s, w i * (∑ l ∈ t, A i l * (c l - c' l)) ^ 2 := by
  -- the cross term is a combination of the normal equations
  have cross : ∑ i ∈ s, w i * (b i - ∑ l ∈ t, A i l * c l) * (∑ l ∈ t, A i l * (c l - c' l)) = 0 := by
    simp only [Finset.mul_sum]
    rw [Finset.sum_comm]
    refine Finset.sum_eq_zero fun l hl => ?_
    rw [← mul_zero (c l - c' l), ← hne l hl, Finset.mul_sum]
    exact Finset.sum_congr rfl fun i _ => by ring
  rw [← add_zero (∑ i ∈ s, w i * (b i - ∑ l ∈ t, A i l * c l) ^ 2), ← mul_zero 2, ← cross, Finset.mul_sum,
    ← Finset.sum_add_distrib, ← Finset.sum_add_distrib]
  refine Finset.sum_congr rfl fun i _ => ?_
  simp only [mul_sub, Finset.sum_sub_distrib]
  ring

end PbVerif.Lemmas
