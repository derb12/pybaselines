import PbVerif.Model.Loess
import PbVerif.Lemmas.ListAux
/-! `_determine_fits` / `_fill_skips`: index safety for arbitrary comparison outcomes (C05), postconditions for
sorted x (C19).  The three stages of `_determine_fits` (main loop, second to last point, last point) all do the same
to the output: a fit beyond the last one is appended with a window and possibly a skip range.  `Run` says that,
`finalSt_run` is the one walk through the code, and every statement about the result is an induction over `Run`. -/
namespace PbVerif.Lemmas
open PbVerif.Loess

namespace Loess

theorem zip_tail_append (l : List Nat) (L a : Nat) (h : l.getLast? = some L) :
    (l ++ [a]).zip (l ++ [a]).tail = l.zip l.tail ++ [(L, a)] := by
  induction l with
  | nil => simp at h
  | cons b t ih =>
    cases t with
    | nil => simp at h; simp [h]
    | cons c t' =>
      have := ih (by simpa [List.getLast?_cons_cons] using h)
      simpa using this

theorem getD_zip_mem {α β : Type} {ws : List α} {fs : List β} (hlen : ws.length = fs.length) {k : Nat}
    (hk : k < fs.length) (dw : α) (df : β) : (ws.getD k dw, fs.getD k df) ∈ ws.zip fs := by
  rw [getD_of_lt dw (hlen ▸ hk), getD_of_lt df hk]
  exact List.mem_iff_getElem.2 ⟨k, by rw [List.length_zip, hlen, Nat.min_self]; exact hk, List.getElem_zip⟩

def loopTo (o : Oracle) (n tp : Nat) (check : Bool) (m : Nat) : St :=
  ((List.range m).map (· + 1)).foldl (iter o n check)
    { fits := [0], windows := [(0, (tp : Int))], skips := [], skipStart := 0, lastFit := 0, left := 0, right := tp }

def special (o : Oracle) (n tp : Nat) (s : St) : St :=
  if s.skipStart ≠ 0 then
    let w : Int × Int :=
      if n = tp ∨ o.tail then (((n - tp : Nat) : Int), (n : Int))
      else (((n : Int) - (tp : Int) - 1), ((n : Int) - 1))
    { s with fits := s.fits ++ [n - 2], windows := s.windows ++ [w],
             skips := s.skips ++ [(s.skipStart - 1, n - 1)] }
  else s

def final (n tp : Nat) (s : St) : St :=
  if n > 1 then { s with fits := s.fits ++ [n - 1],
                         windows := s.windows ++ [(((n - tp : Nat) : Int), (n : Int))] } else s

def finalSt (o : Oracle) (n tp : Nat) (check : Bool) : St :=
  final n tp (special o n tp (loopTo o n tp check (n - 2)))

theorem determineFits_eq (o : Oracle) (n tp : Nat) (check : Bool) :
    determineFits o n tp check =
      ((finalSt o n tp check).windows, (finalSt o n tp check).fits, (finalSt o n tp check).skips) := rfl

theorem loopTo_succ (o : Oracle) (n tp : Nat) (check : Bool) (m : Nat) :
    loopTo o n tp check (m + 1) = iter o n check (loopTo o n tp check m) (m + 1) := by
  simp only [loopTo, List.range_succ, List.map_append, List.foldl_append, List.map_cons, List.map_nil,
    List.foldl_cons, List.foldl_nil]

def fitSt (o : Oracle) (n i : Nat) (s1 : St) : St :=
  let lr := advance o n i n s1.left s1.right
  { s1 with fits := s1.fits ++ [i], windows := s1.windows ++ [((lr.1 : Int), (lr.2 : Int))],
            left := lr.1, right := lr.2 }

theorem iter_eq (o : Oracle) (n : Nat) (check : Bool) (s : St) (i : Nat) :
    iter o n check s i =
      if check && o.skip i s.lastFit then
        { s with skipStart := if s.skipStart = 0 then i else s.skipStart }
      else fitSt o n i
        (if check then
          { s with lastFit := i,
                   skips := if s.skipStart ≠ 0 then s.skips ++ [(s.skipStart - 1, i + 1)] else s.skips,
                   skipStart := 0 }
         else s) := rfl

/-- the window `w` recorded with the fit `j` while the sliding window is `[l, r)`, and the sliding window `[l', r')`
afterwards: only the main loop moves it -/
inductive Win (o : Oracle) (n tp j l r : Nat) : Int × Int → Nat → Nat → Prop
  | loop (hj : j + 1 < n) :
      Win o n tp j l r (((advance o n j n l r).1 : Int), ((advance o n j n l r).2 : Int))
        (advance o n j n l r).1 (advance o n j n l r).2
  | special (hj : j + 2 = n) :
      Win o n tp j l r (if n = tp ∨ o.tail then (((n - tp : Nat) : Int), (n : Int))
        else (((n : Int) - (tp : Int) - 1), ((n : Int) - 1))) l r
  | final (hj : j + 1 = n) : Win o n tp j l r (((n - tp : Nat) : Int), (n : Int)) l r

/-- `Run … L l r fits ws skips`: what `_determine_fits` can have put out when `L` is the last fitted index and
`[l, r)` the sliding window -/
inductive Run (o : Oracle) (n tp : Nat) (check : Bool) :
    Nat → Nat → Nat → List Nat → List (Int × Int) → List (Nat × Nat) → Prop
  | init : Run o n tp check 0 0 tp [0] [(0, (tp : Int))] []
  | snoc {L l r : Nat} {F : List Nat} {W : List (Int × Int)} {S S' : List (Nat × Nat)} {j l' r' : Nat}
      {w : Int × Int} (h : Run o n tp check L l r F W S) (hLj : L < j) (hw : Win o n tp j l r w l' r')
      (hs : (S' = S ∧ j = L + 1) ∨ (S' = S ++ [(L, j + 1)] ∧ check = true)) :
      Run o n tp check j l' r' (F ++ [j]) (W ++ [w]) S'

abbrev RunSt (o : Oracle) (n tp : Nat) (check : Bool) (L : Nat) (s : St) : Prop :=
  Run o n tp check L s.left s.right s.fits s.windows s.skips

/-- the two bookkeeping variables of the main loop after index `i`, in terms of the last fitted index `L`:
`skipStart` is `0` when `i` itself was fitted and `L + 1` otherwise -/
structure Link (check : Bool) (i : Nat) (s : St) (L : Nat) : Prop where
  z : s.skipStart = 0 → L = i
  nz : s.skipStart ≠ 0 → L + 1 = s.skipStart ∧ s.skipStart ≤ i ∧ check = true
  lf : check = true → s.lastFit = L

theorem Link.le {check : Bool} {i : Nat} {s : St} {L : Nat} (k : Link check i s L) : L ≤ i := by
  by_cases hz : s.skipStart = 0
  · exact Nat.le_of_eq (k.z hz)
  · have := k.nz hz; omega

theorem loopTo_run (o : Oracle) (n tp : Nat) (check : Bool) (m : Nat) (hm : m ≤ n - 2) :
    ∃ L, RunSt o n tp check L (loopTo o n tp check m) ∧ Link check m (loopTo o n tp check m) L := by
  induction m with
  | zero => exact ⟨0, .init, fun _ => rfl, fun h => absurd rfl h, fun _ => rfl⟩
  | succ i ih =>
    obtain ⟨L, hr, k⟩ := ih (by omega)
    rw [loopTo_succ, iter_eq]
    generalize loopTo o n tp check i = s at hr k
    have hLi := k.le
    by_cases hb : (check && o.skip (i+1) s.lastFit) = true
    · rw [if_pos hb]
      have hc : check = true := (Bool.and_eq_true_iff.1 hb).1
      refine ⟨L, hr, { z := ?_, nz := ?_, lf := k.lf }⟩
      · intro h0; exfalso
        by_cases hz : s.skipStart = 0 <;> simp [hz] at h0
      · intro _
        by_cases hz : s.skipStart = 0
        · have := k.z hz; simp [hz, hc]; omega
        · have := k.nz hz; simp [hz, hc]; omega
    · rw [if_neg hb]
      unfold fitSt
      cases check with
      | false =>
        -- without the check nothing was ever skipped: `i + 1` follows the last fit directly
        have hz : s.skipStart = 0 := Decidable.byContradiction fun hz => Bool.noConfusion (k.nz hz).2.2
        have hL := k.z hz
        exact ⟨i+1, hr.snoc (by omega) (.loop (by omega)) (Or.inl ⟨rfl, by omega⟩),
          fun _ => rfl, fun h => absurd hz h, fun h => Bool.noConfusion h⟩
      | true =>
        -- a pending skip is recorded as `(skipStart - 1, i + 2)`, which is `(L, (i + 1) + 1)` by `Link`
        refine ⟨i+1, hr.snoc (by omega) (.loop (by omega)) ?_, fun _ => rfl, fun h => absurd rfl h, fun _ => rfl⟩
        by_cases hz : s.skipStart = 0
        · left; have := k.z hz; simp [hz]; omega
        · right; have := k.nz hz
          have e : s.skipStart - 1 = L := by omega
          simp [hz, e]

theorem finalSt_run (o : Oracle) (n tp : Nat) (check : Bool) : RunSt o n tp check (n - 1) (finalSt o n tp check) := by
  obtain ⟨L, hr, k⟩ := loopTo_run o n tp check (n - 2) (Nat.le_refl _)
  unfold finalSt
  generalize loopTo o n tp check (n - 2) = s at hr k
  have hs : RunSt o n tp check (n - 2) (special o n tp s) := by
    unfold special
    by_cases hz : s.skipStart = 0
    · rw [if_neg (not_not_intro hz)]; exact k.z hz ▸ hr
    · rw [if_pos hz]
      have := k.nz hz
      have e : (s.skipStart - 1, n - 1) = (L, n - 2 + 1) := by congr 1 <;> omega
      exact hr.snoc (by omega) (.special (by omega)) (Or.inr ⟨by rw [e], this.2.2⟩)
  unfold final
  by_cases hn : n > 1
  · rw [if_pos hn]
    exact hs.snoc (j := n - 1) (by omega) (.final (by omega)) (Or.inl ⟨rfl, by omega⟩)
  · rw [if_neg hn]
    exact (show n - 2 = n - 1 by omega) ▸ hs

structure Core (fits : List Nat) (ws : List (Int × Int)) (skips : List (Nat × Nat)) (L : Nat) : Prop where
  wlen : ws.length = fits.length
  head : fits.head? = some 0
  last : fits.getLast? = some L
  /-- hence strictly increasing, at most `L`, at most `L + 1` of them -/
  sub : fits.Sublist (List.range (L + 1))
  sklen : skips.length + 1 ≤ fits.length
  skinb : ∀ p ∈ skips, p.1 + 1 < p.2 ∧ p.2 ≤ L + 1
  gaps : skips.filter (fun p => p.1 + 2 < p.2) =
    ((fits.zip fits.tail).filter (fun p => p.1 + 1 < p.2)).map (fun p => (p.1, p.2 + 1))

theorem Run.core {o : Oracle} {n tp : Nat} {check : Bool} {L l r : Nat} {F : List Nat} {W : List (Int × Int)}
    {S : List (Nat × Nat)} (h : Run o n tp check L l r F W S) : Core F W S L := by
  induction h with
  | init => refine ⟨?_, ?_, ?_, ?_, ?_, ?_, ?_⟩ <;> simp
  | @snoc L l r F W S S' j l' r' w _ hLj _ hs c =>
    refine ⟨?_, ?_, ?_, ?_, ?_, ?_, ?_⟩
    · rw [List.length_append, List.length_append, c.wlen]; rfl
    · rw [List.head?_append, c.head]; rfl
    · rw [List.getLast?_append]; rfl
    · rw [List.range_succ]
      exact (c.sub.trans (List.range_sublist.2 hLj)).append (List.Sublist.refl _)
    · have := c.sklen
      rcases hs with ⟨h, _⟩ | ⟨h, _⟩
      · rw [h, List.length_append, List.length_singleton]; omega
      · rw [h, List.length_append, List.length_append, List.length_singleton, List.length_singleton]; omega
    · have hold : ∀ p ∈ S, p.1 + 1 < p.2 ∧ p.2 ≤ j + 1 := fun p hp =>
        ⟨(c.skinb p hp).1, Nat.le_trans (c.skinb p hp).2 (Nat.succ_le_succ (Nat.le_of_lt hLj))⟩
      rcases hs with ⟨h, _⟩ | ⟨h, _⟩
      · rw [h]; exact hold
      · rw [h]; intro p hp
        rcases List.mem_append.1 hp with hp | hp
        · exact hold p hp
        · rw [List.mem_singleton.1 hp]; exact ⟨Nat.succ_lt_succ hLj, Nat.le_refl _⟩
    · rw [zip_tail_append _ _ _ c.last, List.filter_append, List.map_append, ← c.gaps]
      rcases hs with ⟨h, h2⟩ | ⟨h, _⟩
      · rw [h]; subst h2; simp
      · rw [h, List.filter_append]
        congr 1
        by_cases hg : L + 1 < j
        · have : L + 2 < j + 1 := by omega
          simp [hg, this]
        · have : ¬ (L + 2 < j + 1) := by omega
          simp [hg, this]

theorem Run.nocheck {o : Oracle} {n tp : Nat} {L l r : Nat} {F : List Nat} {W : List (Int × Int)}
    {S : List (Nat × Nat)} (h : Run o n tp false L l r F W S) : F = List.range (L + 1) ∧ S = [] := by
  induction h with
  | init => exact ⟨rfl, rfl⟩
  | snoc _ _ _ hs ih =>
    obtain ⟨rfl, rfl⟩ | ⟨_, hc⟩ := hs
    · exact ⟨by rw [ih.1]; exact List.range_succ.symm, ih.2⟩
    · cases hc

end Loess
open Loess

/-! for ARBITRARY comparison outcomes (NaN, unsorted x); the index bounds are what C05 uses -/

theorem determineFits_core (o : Oracle) (n tp : Nat) (check : Bool) :
    Core (determineFits o n tp check).2.1 (determineFits o n tp check).1 (determineFits o n tp check).2.2 (n - 1) :=
  (finalSt_run o n tp check).core

theorem determineFits_fits_lt (o : Oracle) (n tp : Nat) (check : Bool) (hn : 1 ≤ n) :
    ∀ f ∈ (determineFits o n tp check).2.1, f < n := by
  intro f hf
  have := List.mem_range.1 ((determineFits_core o n tp check).sub.subset hf); omega

/-- keeps `baseline[left]`, `baseline[right - 1]` in `_fill_skips` in bounds and apart -/
theorem determineFits_skips_inb (o : Oracle) (n tp : Nat) (check : Bool) :
    ∀ s ∈ (determineFits o n tp check).2.2, s.1 + 2 < s.2 + 1 ∧ s.2 ≤ n := by
  intro p hp
  have := (determineFits_core o n tp check).skinb p hp; omega

theorem determineFits_nocheck (o : Oracle) (n tp : Nat) (hn : 1 ≤ n) :
    (determineFits o n tp false).2.1 = List.range n ∧ (determineFits o n tp false).2.2 = [] := by
  have := (finalSt_run o n tp false).nocheck
  rwa [Nat.sub_add_cancel hn] at this

/-! the same for the real comparisons on `x` (what C19 states) -/

theorem fits_sorted_ends (x : List Rat) (tp : Nat) (delta : Rat) (hn : 2 ≤ x.length) :
    let fits := (determineFitsX x tp delta).2.1
    fits.Pairwise (· < ·) ∧ fits.head? = some 0 ∧ fits.getLast? = some (x.length - 1) :=
  have c := determineFits_core (realOracle x tp delta) x.length tp (decide (delta > 0))
  ⟨List.pairwise_lt_range.sublist c.sub, c.head, c.last⟩

theorem delta0_all (x : List Rat) (tp : Nat) (delta : Rat) (hd : delta ≤ 0) (hn : 1 ≤ x.length) :
    (determineFitsX x tp delta).2.1 = List.range x.length ∧ (determineFitsX x tp delta).2.2 = [] := by
  have hc : decide (delta > 0) = false := decide_eq_false (Rat.not_lt.mpr hd)
  rw [determineFitsX, hc]; exact determineFits_nocheck _ x.length tp hn

/-- the skip ranges with a non-empty interior are exactly the gaps between consecutive fits: `(a, b)` stands for
consecutive fits `a`, `b - 1` with a skipped point between them.  (A skipped tail also records `(last loop fit, N - 1)`,
whose interior is empty when only the second to last point, then fitted itself, was skipped.) -/
theorem skips_are_gaps (x : List Rat) (tp : Nat) (delta : Rat) (hn : 2 ≤ x.length) :
    let r := determineFitsX x tp delta
    r.2.2.filter (fun s => s.1 + 2 < s.2) =
      ((r.2.1.zip r.2.1.tail).filter (fun p => p.1 + 1 < p.2)).map (fun p => (p.1, p.2 + 1)) :=
  (determineFits_core _ x.length tp _).gaps

namespace Loess

theorem advance_spec (o : Oracle) (n i tp f l r : Nat) (h1 : r = l + tp) :
    (advance o n i f l r).2 = (advance o n i f l r).1 + tp ∧ l ≤ (advance o n i f l r).1 ∧
      (r ≤ n → (advance o n i f l r).2 ≤ n) := by
  fun_induction advance o n i f l r with
  | case1 l r => exact ⟨h1, Nat.le_refl _, id⟩
  | case2 f l r hc ih => have := ih (by omega); exact ⟨this.1, by omega, fun _ => this.2.2 hc.1⟩
  | case3 f l r hc => exact ⟨h1, Nat.le_refl _, id⟩

/-- the special window `(N - tp - 1, N - 1)` is computed over the integers; it is taken only when `tp ≠ N` -/
theorem Run.inb {o : Oracle} {n tp : Nat} {check : Bool} {L l r : Nat} {F : List Nat} {W : List (Int × Int)}
    {S : List (Nat × Nat)} (h : Run o n tp check L l r F W S) :
    r = l + tp ∧ (tp ≤ n → r ≤ n ∧ ∀ w ∈ W, 0 ≤ w.1 ∧ w.2 ≤ (n : Int) ∧ w.2 - w.1 = (tp : Int)) := by
  induction h with
  | init =>
    refine ⟨(Nat.zero_add tp).symm, fun htpn => ⟨htpn, fun w hw => ?_⟩⟩
    rw [List.mem_singleton.1 hw]
    exact ⟨Int.le_refl 0, Int.ofNat_le.2 htpn, Int.sub_zero _⟩
  | @snoc L l r F W S S' j l' r' w _ hLj hw _ ih =>
    have hwin : r' = l' + tp ∧ (tp ≤ n → r ≤ n → r' ≤ n ∧ 0 ≤ w.1 ∧ w.2 ≤ (n : Int) ∧ w.2 - w.1 = (tp : Int)) := by
      cases hw with
      | loop hj =>
        have a := advance_spec o n j tp n l r ih.1
        exact ⟨a.1, fun _ hr => ⟨a.2.2 hr, by have := a.2.2 hr; simp only []; omega⟩⟩
      | special hj => exact ⟨ih.1, fun htpn hr => ⟨hr, by split <;> simp only [] <;> omega⟩⟩
      | final hj => exact ⟨ih.1, fun htpn hr => ⟨hr, by simp only []; omega⟩⟩
    refine ⟨hwin.1, fun htpn => ?_⟩
    have a := ih.2 htpn
    have b := hwin.2 htpn a.1
    refine ⟨b.1, fun v hv => ?_⟩
    rcases List.mem_append.1 hv with hv | hv
    · exact a.2 v hv
    · rw [List.mem_singleton.1 hv]; exact b.2

end Loess

/-- every window is `total_points` indices inside `[0, N)`: what makes `x[left:right]`, `kernels[i] = kernel`,
`difference[0]`, `difference[-1]` in the loess kernels safe -/
theorem determineFits_windows_inb (o : Oracle) (n tp : Nat) (check : Bool) (htpn : tp ≤ n) :
    ∀ w ∈ (determineFits o n tp check).1, 0 ≤ w.1 ∧ w.2 ≤ (n : Int) ∧ w.2 - w.1 = (tp : Int) :=
  ((finalSt_run o n tp check).inb.2 htpn).2

/-! ### for sorted, pairwise distinct x (what `loess` passes): every window contains its fit point -/

def StrictMonoL (x : List Rat) : Prop := ∀ i j, i < j → j < x.length → x.getD i 0 < x.getD j 0

namespace Loess

/-- the answers of the window test that keep a fit point inside its window: a window starting at the fit point is
not moved, one ending at or before it is; the tail test fails for one-point windows -/
structure Centring (o : Oracle) (n tp : Nat) : Prop where
  stay : ∀ i r, i < r → r < n → o.adv i i r = false
  go : ∀ i l r, l < r → r ≤ i → i < n → o.adv i l r = true
  tail : 2 ≤ n → o.tail = true → tp ≠ 1

theorem realOracle_centring (x : List Rat) (tp : Nat) (delta : Rat) (hx : StrictMonoL x) :
    Centring (realOracle x tp delta) x.length tp := by
  refine ⟨fun i r h1 h2 => ?_, fun i l r h1 h2 h3 => ?_, fun hn h e => ?_⟩
  · -- stay: `x i < x r`, so `x i - x i > x r - x i` fails
    have := hx i r h1 h2
    simp only [realOracle, decide_eq_false_iff_not]
    grind
  · -- go: `x l < x i` and `x r ≤ x i`, so `x i - x l > 0 ≥ x r - x i`
    have a1 := hx l i (by omega) h3
    simp only [realOracle, decide_eq_true_eq]
    by_cases e : r = i
    · subst e; grind
    · have a2 := hx r i (by omega) h3
      grind
  · -- tail with `tp = 1` reads `x[N-1] - x[N-2] < x[N-2] - x[N-1]`, a positive number below a negative one
    subst e
    simp only [realOracle, decide_eq_true_eq] at h
    have := hx (x.length - 2) (x.length - 1) (by omega) (by omega)
    grind

theorem advance_contains (o : Oracle) (n tp i : Nat) (hc : Centring o n tp) (hi : i < n) (htp : 1 ≤ tp)
    (f l r : Nat) (h1 : r = l + tp) (h3 : l ≤ i) (h4 : n - r ≤ f) :
    (advance o n i f l r).1 ≤ i ∧ i < (advance o n i f l r).2 := by
  fun_induction advance o n i f l r with
  | case1 l r => exact ⟨h3, by omega⟩
  | case2 f l r ha ih =>
    have hl : l ≠ i := by
      rintro rfl
      have := hc.stay l r (by omega) ha.1
      rw [ha.2] at this; cases this
    exact ih (by omega) (by omega) (by omega)
  | case3 f l r ha =>
    exact ⟨h3, Decidable.byContradiction fun hr => ha ⟨by omega, hc.go i l r (by omega) (by omega) hi⟩⟩

/-- the invariant `l ≤ L`: the sliding window starts at or before the last fit, so that advancing it for the next
fit point catches that point -/
theorem Run.contains {o : Oracle} {n tp : Nat} {check : Bool} {L l r : Nat} {F : List Nat} {W : List (Int × Int)}
    {S : List (Nat × Nat)} (h : Run o n tp check L l r F W S) (hc : Centring o n tp) (htp : 1 ≤ tp) :
    l ≤ L ∧ ∀ p ∈ W.zip F, p.1.1 ≤ ((p.2 : Nat) : Int) ∧ ((p.2 : Nat) : Int) < p.1.2 := by
  induction h with
  | init =>
    refine ⟨Nat.le_refl 0, fun p hp => ?_⟩
    rw [List.zip_cons_cons, List.zip_nil_right, List.mem_singleton] at hp
    rw [hp]; exact ⟨Int.le_refl 0, Int.ofNat_lt.2 htp⟩
  | @snoc L l r F W S S' j l' r' w h hLj hw _ ih =>
    have hwin : l' ≤ j ∧ w.1 ≤ (j : Int) ∧ (j : Int) < w.2 := by
      cases hw with
      | loop hj =>
        have b := advance_contains o n tp j hc (by omega) htp n l r h.inb.1 (by omega) (by omega)
        exact ⟨b.1, Int.ofNat_le.2 b.1, Int.ofNat_lt.2 b.2⟩
      | special hj =>
        have := hc.tail (by omega)
        refine ⟨by omega, ?_⟩
        split
        · next ht => have : n = tp ∨ tp ≠ 1 := ht.imp id this; simp only []; omega
        · simp only []; omega
      | final hj => exact ⟨by omega, by simp only []; omega⟩
    refine ⟨hwin.1, fun p hp => ?_⟩
    rw [List.zip_append h.core.wlen] at hp
    rcases List.mem_append.1 hp with hp | hp
    · exact ih.2 p hp
    · rw [List.zip_cons_cons, List.zip_nil_right, List.mem_singleton] at hp
      rw [hp]; exact hwin.2

end Loess

theorem windows_contain_of_centring (o : Oracle) (n tp : Nat) (check : Bool) (hc : Centring o n tp) (htp : 1 ≤ tp) :
    ∀ k, k < (determineFits o n tp check).2.1.length →
      ((determineFits o n tp check).1.getD k (0, 0)).1 ≤ (((determineFits o n tp check).2.1.getD k 0 : Nat) : Int) ∧
      (((determineFits o n tp check).2.1.getD k 0 : Nat) : Int) < ((determineFits o n tp check).1.getD k (0, 0)).2 :=
  fun _ hk => ((finalSt_run o n tp check).contains hc htp).2 _
    (getD_zip_mem (determineFits_core o n tp check).wlen hk (0, 0) 0)

theorem fillSkips_one (x b : List Rat) (l r k : Nat) (hkb : k < b.length) :
    (fillSkips x b [(l, r)]).getD k 0 =
      if l < k ∧ k + 1 < r then
        b.getD l 0 + (x.getD k 0 - x.getD l 0) * ((b.getD (r - 1) 0 - b.getD l 0) / (x.getD (r - 1) 0 - x.getD l 0))
      else b.getD k 0 :=
  getD_range_map _ 0 hkb

theorem fillSkips_chord (x b : List Rat) (l r k : Nat) (hlen : x.length = b.length) (hk : l < k ∧ k + 1 < r) (hr : r ≤ b.length) :
    (fillSkips x b [(l, r)]).getD k 0 =
      b.getD l 0 + (x.getD k 0 - x.getD l 0) * ((b.getD (r - 1) 0 - b.getD l 0) / (x.getD (r - 1) 0 - x.getD l 0)) := by
  rw [fillSkips_one x b l r k (by omega), if_pos hk]

end PbVerif.Lemmas
