import Mathlib.Tactic.Ring
import Mathlib.Algebra.Order.Field.Rat
import PbVerif.Lemmas.ListAux
/-! The change of x-axis `t ↦ a·t + b` under which C12 (B-spline kernels) and C19 (LOESS) are shown invariant. Differences
scale by `a`: `a > 0` keeps every comparison the code makes, `a ≠ 0` cancels from `difference * (v / difference)`. A list is
read inside its length only (`getD_map_aff`): the default `0` is not the image of `0`. -/
namespace PbVerif.Lemmas.Affine
open PbVerif.Lemmas

def aff (a b : Rat) : Rat → Rat := fun t => a * t + b

theorem getD_map_aff (a b : Rat) (k : List Rat) (i : Nat) (h : i < k.length) :
    (k.map (aff a b)).getD i 0 = aff a b (k.getD i 0) :=
  getD_map_of_lt (aff a b) 0 0 h

theorem aff_sub (a b p q : Rat) : aff a b p - aff a b q = a * (p - q) := by
  simp only [aff]; ring

theorem aff_lt (a b : Rat) (ha : 0 < a) (s t : Rat) : aff a b s < aff a b t ↔ s < t := by
  simp only [aff, add_lt_add_iff_right, mul_lt_mul_iff_right₀ ha]

theorem aff_add_lt (a b : Rat) (ha : 0 < a) (s t d : Rat) : aff a b s < aff a b t + a * d ↔ s < t + d := by
  have : aff a b t + a * d = aff a b (t + d) := by simp only [aff]; ring
  rw [this, aff_lt a b ha]

theorem aff_sub_lt (a b : Rat) (ha : 0 < a) (p q r s : Rat) :
    aff a b p - aff a b q < aff a b r - aff a b s ↔ p - q < r - s := by
  rw [aff_sub, aff_sub]
  exact mul_lt_mul_iff_right₀ ha

/-- also when `r = s`: both sides are 0 -/
theorem aff_ratio (a b : Rat) (ha : a ≠ 0) (p q r s v : Rat) :
    (aff a b p - aff a b q) * (v / (aff a b r - aff a b s)) = (p - q) * (v / (r - s)) := by
  rw [aff_sub, aff_sub, mul_assoc, ← mul_div_assoc, ← mul_div_assoc, mul_div_mul_left _ _ ha, mul_div_assoc]

end PbVerif.Lemmas.Affine
