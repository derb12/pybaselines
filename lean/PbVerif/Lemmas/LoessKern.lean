import PbVerif.Model.LoessKern
import PbVerif.Lemmas.ListAux
/-! C19: the two memory strategies of LOESS (`conserve_memory`) compute the same thing, for EVERY interpretation of the
scalar operations and of the solver.  Each loop is a pass of array assignments (`foldl_set`); with distinct in-range
fit indices the first pass leaves in `kernels[i]` what the low-memory loop recomputes.  Core Lean only. -/
namespace PbVerif.Lemmas.LoessKern
open PbVerif.LoessKern PbVerif.Lemmas

variable {α : Type}

theorem slice_map {β : Type} (f : α → β) (v : List α) (l r : Nat) : slice (v.map f) l r = (slice v l r).map f := by
  simp only [slice, List.map_drop, List.map_take]

theorem getD_slice (v : List α) (d : α) (l r k : Nat) (hk : k < r - l) :
    (slice v l r).getD k d = v.getD (l + k) d := by
  rw [slice, getD_take_of_lt _ d hk, getD_drop]

theorem length_slice (v : List α) (l r : Nat) (hr : r ≤ v.length) : (slice v l r).length = r - l := by
  rw [slice, List.length_take, List.length_drop, Nat.min_eq_left (Nat.sub_le_sub_right hr l)]

theorem ratNum_zero (sqrt : Rat → Rat) : (ratNum sqrt).zero = 0 := rfl

/-- a pass of assignments `a[key p] = val p` over `L` -/
theorem foldl_set {τ β : Type} (key : τ → Nat) (val : τ → β) (L : List τ) (a : List β) (d : β) :
    (L.foldl (fun a p => a.set (key p) (val p)) a).length = a.length ∧ ∀ j,
      (j ∉ L.map key → (L.foldl (fun a p => a.set (key p) (val p)) a).getD j d = a.getD j d) ∧
      (j ∈ L.map key → j < a.length →
        ∃ q ∈ L, key q = j ∧ (L.foldl (fun a p => a.set (key p) (val p)) a).getD j d = val q) := by
  induction L generalizing a with
  | nil => exact ⟨rfl, fun j => ⟨fun _ => rfl, fun h => by cases h⟩⟩
  | cons p L ih =>
    simp only [List.foldl_cons]
    obtain ⟨hl, hj⟩ := ih (a.set (key p) (val p))
    rw [List.length_set] at hl hj
    refine ⟨hl, fun j => ⟨fun hnot => ?_, fun hin hja => ?_⟩⟩
    · rw [List.map_cons, List.mem_cons, not_or] at hnot
      rw [(hj j).1 hnot.2, getD_set, if_neg fun h => hnot.1 h.1.symm]
    · by_cases hjL : j ∈ L.map key
      · obtain ⟨q, hq, hqj, h⟩ := (hj j).2 hjL hja
        exact ⟨q, List.mem_cons_of_mem _ hq, hqj, h⟩
      · rw [List.map_cons, List.mem_cons] at hin
        have hjp : j = key p := hin.resolve_right hjL
        refine ⟨p, List.mem_cons_self, hjp.symm, ?_⟩
        rw [(hj j).1 hjL, getD_set, if_pos ⟨hjp.symm, hja⟩]

theorem foldl_set_getD {τ β : Type} (key : τ → Nat) (val : τ → β) (L : List τ) (a : List β) (d : β) {j : Nat} {c : β}
    (hj : j ∈ L.map key) (hja : j < a.length) (h : ∀ q ∈ L, key q = j → val q = c) :
    (L.foldl (fun a p => a.set (key p) (val p)) a).getD j d = c := by
  obtain ⟨q, hq, hqj, e⟩ := ((foldl_set key val L a d).2 j).2 hj hja
  rw [e, h q hq hqj]

theorem eq_of_nodup_key {τ : Type} (key : τ → Nat) (L : List τ) (h : (L.map key).Nodup) {p q : τ}
    (hp : p ∈ L) (hq : q ∈ L) (e : key q = key p) : q = p := by
  induction L with
  | nil => cases hp
  | cons r L ih =>
    rw [List.map_cons, List.nodup_cons] at h
    rcases List.mem_cons.1 hp with hp | hp <;> rcases List.mem_cons.1 hq with hq | hq
    · rw [hp, hq]
    · exact absurd (hp ▸ e ▸ List.mem_map_of_mem hq) h.1
    · exact absurd (hq ▸ e.symm ▸ List.mem_map_of_mem hp) h.1
    · exact ih h.2 hp hq

/-- a loop whose body updates two components of its state independently is the two loops side by side -/
theorem foldl_split {σ ρ ω τ : Type} (mk : σ → ρ → ω) (h : ω → τ → ω) (f : σ → τ → σ) (g : ρ → τ → ρ)
    (hstep : ∀ a b p, h (mk a b) p = mk (f a p) (g b p)) (L : List τ) (a : σ) (b : ρ) :
    L.foldl h (mk a b) = mk (L.foldl f a) (L.foldl g b) := by
  induction L generalizing a b with
  | nil => rfl
  | cons p L ih => rw [List.foldl_cons, hstep, ih]; rfl

/-! ### the kernel cache -/

/-- what `_loess_first_loop` leaves in `kernels` -/
def storeAll (o : Num α) (x : List α) (L : List (Nat × Nat × Nat)) (ks : List (List α)) : List (List α) :=
  L.foldl (fun ks p => ks.set p.1 (kernelOf o x p.1 p.2.1 p.2.2)) ks

/-- the cache is right for the (fit, window) pairs `L` -/
def Stored (o : Num α) (x : List α) (kernels : List (List α)) (L : List (Nat × Nat × Nat)) : Prop :=
  ∀ p ∈ L, kernels.getD p.1 [] = kernelOf o x p.1 p.2.1 p.2.2

theorem firstLoop_eq (o : Num α) (solver : Solver α) (x y w : List α) (coefs vander : List (List α)) (n : Nat)
    (windows : List (Nat × Nat)) (fits : List Nat) (junk : List (List α)) :
    firstLoop o solver x y w coefs vander n windows fits junk =
      (storeAll o x (fits.zip windows) junk, lowMemory o solver x y w coefs vander n windows fits) :=
  foldl_split Prod.mk _ _ _ (by intros; rfl) _ _ _

theorem storeAll_length (o : Num α) (x : List α) (L : List (Nat × Nat × Nat)) (ks : List (List α)) :
    (storeAll o x L ks).length = ks.length :=
  (foldl_set Prod.fst (fun p : Nat × Nat × Nat => kernelOf o x p.1 p.2.1 p.2.2) L ks []).1

theorem storeAll_other (o : Num α) (x : List α) (L : List (Nat × Nat × Nat)) (ks : List (List α)) (j : Nat)
    (hj : j ∉ L.map Prod.fst) : (storeAll o x L ks).getD j [] = ks.getD j [] :=
  ((foldl_set Prod.fst (fun p : Nat × Nat × Nat => kernelOf o x p.1 p.2.1 p.2.2) L ks []).2 j).1 hj

/-- `hnd`: with a repeated index the later write would win; `hlt`: with `i ≥ num_x` the real assignment raises -/
theorem storeAll_stored (o : Num α) (x : List α) (L : List (Nat × Nat × Nat)) (ks : List (List α))
    (hnd : (L.map Prod.fst).Nodup) (hlt : ∀ p ∈ L, p.1 < ks.length) :
    Stored o x (storeAll o x L ks) L := by
  intro p hp
  exact foldl_set_getD Prod.fst _ L ks [] (List.mem_map_of_mem hp) (hlt p hp) fun q hq hqp => by
    rw [eq_of_nodup_key Prod.fst L hnd hp hq hqp]

theorem firstLoop_stored (o : Num α) (solver : Solver α) (x y w : List α) (coefs vander : List (List α)) (n : Nat)
    (windows : List (Nat × Nat)) (fits : List Nat) (junk : List (List α))
    (hnd : fits.Nodup) (hlt : ∀ i ∈ fits, i < junk.length) :
    Stored o x (firstLoop o solver x y w coefs vander n windows fits junk).1 (fits.zip windows) := by
  rw [firstLoop_eq]
  exact storeAll_stored o x _ junk (zip_fst_nodup hnd windows)
    (fun p hp => hlt p.1 (List.of_mem_zip hp).1)

theorem nonfirst_eq_lowMemory (o : Num α) (solver : Solver α) (x y w : List α) (coefs vander kernels : List (List α))
    (n : Nat) (windows : List (Nat × Nat)) (fits : List Nat) (hst : Stored o x kernels (fits.zip windows)) :
    nonfirstLoops o solver y w coefs vander kernels windows n fits =
      lowMemory o solver x y w coefs vander n windows fits := by
  apply foldl_congr_mem
  intro s p hp
  rw [hst p hp]

theorem loessLoop_later (o : Num α) (solver : Solver α) (x : List α) (vander : List (List α)) (n : Nat)
    (windows : List (Nat × Nat)) (fits : List Nat) {β : Type} (upd : Update α β) (fuel : Nat) :
    ∀ (it : Nat) (s : LState α β) (k1 k2 : List (List α)), it ≠ 0 → Stored o x k2 (fits.zip windows) →
      loessLoop true o solver x vander n windows fits upd fuel it s k1 =
        loessLoop false o solver x vander n windows fits upd fuel it s k2 := by
  induction fuel with
  | zero => intros; rfl
  | succ fuel ih =>
    intro it s k1 k2 hit hst
    simp only [loessLoop, if_true, Bool.false_eq_true, if_false, if_neg hit]
    rw [nonfirst_eq_lowMemory o solver x s.y s.w s.coefs vander k2 n windows fits hst]
    cases (upd s.acc s.y s.w (lowMemory o solver x s.y s.w s.coefs vander n windows fits).baseline).2 with
    | none => rfl
    | some yw => exact ih (it + 1) _ k1 k2 (Nat.succ_ne_zero it) hst

/-- `conserve_memory` does not change the result of `loess`, whatever the iteration budget and the update rule -/
theorem loessLoop_strategies (o : Num α) (solver : Solver α) (x : List α) (vander : List (List α)) (n : Nat)
    (windows : List (Nat × Nat)) (fits : List Nat) {β : Type} (upd : Update α β) (fuel : Nat)
    (s : LState α β) (junk : List (List α)) (hnd : fits.Nodup) (hlt : ∀ i ∈ fits, i < junk.length) :
    loessLoop true o solver x vander n windows fits upd fuel 0 s junk =
      loessLoop false o solver x vander n windows fits upd fuel 0 s junk := by
  cases fuel with
  | zero => rfl
  | succ fuel =>
    have hst := firstLoop_stored o solver x s.y s.w s.coefs vander n windows fits junk hnd hlt
    simp only [loessLoop, if_true, Bool.false_eq_true, if_false]
    rw [firstLoop_eq] at hst ⊢
    cases (upd s.acc s.y s.w (lowMemory o solver x s.y s.w s.coefs vander n windows fits).baseline).2 with
    | none => rfl
    | some yw => exact loessLoop_later o solver x vander n windows fits upd fuel 1 _ junk _ (by decide) hst

/-! ### what a pass writes -/

theorem write_lengths (s : Out α) (i : Nat) (r : List α × α) :
    (write s i r).baseline.length = s.baseline.length ∧ (write s i r).coefs.length = s.coefs.length :=
  ⟨List.length_set, List.length_set⟩

theorem write_other (s : Out α) (i j : Nat) (r : List α × α) (h : j ≠ i) :
    (write s i r).baseline.getD j none = s.baseline.getD j none ∧
      (write s i r).coefs.getD j [] = s.coefs.getD j [] := by
  simp only [write, getD_set, if_neg fun e : i = j ∧ _ => h e.1.symm, and_self]

theorem write_self (s : Out α) (i : Nat) (r : List α × α) :
    (i < s.baseline.length → (write s i r).baseline.getD i none = some r.2) ∧
      (i < s.coefs.length → (write s i r).coefs.getD i [] = r.1) := by
  constructor <;> intro h <;> simp only [write, getD_set, h, and_self, if_true]

/-- `(coef, vander[i].dot(coef))` for one (fit, window) pair in `_loess_low_memory` -/
def localFit (o : Num α) (solver : Solver α) (x y w : List α) (vander : List (List α)) (p : Nat × Nat × Nat) :
    List α × α :=
  fitAt o solver (yFit o y w) (vanderFit o vander w) vander (kernelOf o x p.1 p.2.1 p.2.2) p.1 p.2.1 p.2.2

theorem lowMemory_eq (o : Num α) (solver : Solver α) (x y w : List α) (coefs vander : List (List α)) (n : Nat)
    (windows : List (Nat × Nat)) (fits : List Nat) :
    lowMemory o solver x y w coefs vander n windows fits =
      { baseline := (fits.zip windows).foldl (fun b p => b.set p.1 (some (localFit o solver x y w vander p).2))
          (List.replicate n none),
        coefs := (fits.zip windows).foldl (fun c p => c.set p.1 (localFit o solver x y w vander p).1) coefs } :=
  foldl_split Out.mk _ _ _ (by intros; rfl) _ _ _

/-- `none` is what `np.empty` left: exactly at the indices not fitted, which `_fill_skips` fills afterwards -/
theorem lowMemory_written (o : Num α) (solver : Solver α) (x y w : List α) (coefs vander : List (List α)) (n : Nat)
    (windows : List (Nat × Nat)) (fits : List Nat) (hlen : windows.length = fits.length) (j : Nat) (hj : j < n) :
    let r := lowMemory o solver x y w coefs vander n windows fits
    r.baseline.length = n ∧ (r.baseline.getD j none ≠ none ↔ j ∈ fits) ∧
      (j ∉ fits → r.coefs.getD j [] = coefs.getD j []) := by
  rw [lowMemory_eq]
  have hb := foldl_set Prod.fst (fun p => some (localFit o solver x y w vander p).2) (fits.zip windows)
    (List.replicate n none) none
  have hc := foldl_set Prod.fst (fun p => (localFit o solver x y w vander p).1) (fits.zip windows) coefs []
  rw [List.map_fst_zip (by omega)] at hb hc
  refine ⟨hb.1.trans List.length_replicate, ⟨fun hne => Decidable.byContradiction fun hnot => hne ?_, fun hin => ?_⟩,
    fun hnot => (hc.2 j).1 hnot⟩
  · rw [(hb.2 j).1 hnot, getD_replicate, if_pos hj]
  · obtain ⟨q, _, _, h⟩ := (hb.2 j).2 hin (by rw [List.length_replicate]; exact hj)
    exact h ▸ Option.some_ne_none _

end PbVerif.Lemmas.LoessKern
