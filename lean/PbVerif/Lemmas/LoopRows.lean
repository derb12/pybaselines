import PbVerif.Gen.Loops
import PbVerif.Model.LoopTbl
/-! The decidable row conditions over the regenerated `Gen.loopTable`: alone in this module, so that a changed table rebuilds
nothing but this check and the property files. -/
namespace PbVerif.Lemmas.LoopRows
open PbVerif.Gen PbVerif.LoopTbl

theorem loopTable_ok : loopTable.all Row.ok = true := by decide +kernel

end PbVerif.Lemmas.LoopRows
