import PbVerif.Model.Kernels2
import PbVerif.Lemmas.IRange
/-! `_numba_banded_dot_banded` (C05): the two inner `range`s keep the columns and the rows of `a`, `b` in range (`mem_frames`,
`mem_offsets`), the precondition `BandPre` keeps `row_c` in range, and the output `_banded_dot_banded` allocates meets it. -/
namespace PbVerif.Lemmas
open PbVerif.Kernels PbVerif.BandMul

theorem bandPre_rowC {rowsA colsA rowsB colsB rowsC colsC al au bl bu : Nat} {cu : Int} {n lb : Nat}
    (h : BandPre rowsA colsA rowsB colsB rowsC colsC al au bl bu cu n lb) {oc : Int}
    (h1 : -((au + bu : Nat) : Int) ≤ oc) (h2 : oc ≤ lb) (h3 : -(n : Int) < oc) (h4 : oc < n) :
    0 ≤ cu + oc ∧ cu + oc < rowsC := by
  have l := Int.le_trans (Int.le_min.2 ⟨Int.neg_le_of_neg_le h1, by omega⟩) h.hcu
  have u := Int.add_le_add_left (Int.le_min.2 ⟨h2, (by omega : oc ≤ (n : Int) - 1)⟩) cu
  have := h.hrc
  generalize min (lb : Int) ((n : Int) - 1) = m at u this
  omega

theorem bandDotIdx_inb {rowsA colsA rowsB colsB rowsC colsC al au bl bu : Nat} {cu : Int} {n lb : Nat}
    (h : BandPre rowsA colsA rowsB colsB rowsC colsC al au bl bu cu n lb) :
    ∀ t ∈ bandDotIdx al au bl bu cu n lb, t.InB rowsA colsA rowsB colsB rowsC colsC := by
  intro t ht
  simp only [bandDotIdx, List.mem_flatMap, List.mem_map] at ht
  obtain ⟨oc, hoc, oa, hoa, fr, hfr, rfl⟩ := ht
  rw [mem_irange] at hoc
  have f := (mem_frames _ _ _ _).1 hfr
  have g := (mem_offsets _ _ _ _ _ _).1 hoa
  have r := bandPre_rowC h hoc.1 (by omega) (by omega) (by omega)
  obtain ⟨ha, hb, hca, hcb, hcc, -, -⟩ := h
  unfold BandAcc.InB
  dsimp only
  omega

/-- no index is negative: the `toNat` through which the value model `BandMul.frames` (C10) reads the same positions changes none -/
theorem bandDotIdx_nonneg (rowsA colsA rowsB colsB rowsC colsC al au bl bu : Nat) (cu : Int) (n lb : Nat)
    (h : BandPre rowsA colsA rowsB colsB rowsC colsC al au bl bu cu n lb) :
    ∀ t ∈ bandDotIdx al au bl bu cu n lb,
      ((t.ra.toNat : Int) = t.ra ∧ (t.ca.toNat : Int) = t.ca ∧ (t.rb.toNat : Int) = t.rb ∧
       (t.cb.toNat : Int) = t.cb ∧ (t.rc.toNat : Int) = t.rc ∧ (t.cc.toNat : Int) = t.cc) := by
  intro t ht
  obtain ⟨a, -, b, -, c, -, d, -, e, -, f, -⟩ := bandDotIdx_inb h t ht
  exact ⟨Int.toNat_of_nonneg a, Int.toNat_of_nonneg b, Int.toNat_of_nonneg c, Int.toNat_of_nonneg d,
    Int.toNat_of_nonneg e, Int.toNat_of_nonneg f⟩

/-- `_banded_dot_banded` with both full shapes `(n, n)`, as `_banded_beads` passes them (`a.shape[1] == b.shape[1] = n` is
checked): the output it allocates meets `BandPre` when `a`, `b` have at least `lower + upper + 1` rows -/
theorem bandPre_of_wrapper {al au bl bu n rowsA rowsB : Nat} (sym : Bool)
    (hA : al + au + 1 ≤ rowsA) (hB : bl + bu + 1 ≤ rowsB) :
    BandPre rowsA n rowsB n (bdbRows al au bl bu n n).toNat n al au bl bu
      (bdbArgs al au bl bu n n sym).1 n (bdbArgs al au bl bu n n sym).2.2 := by
  refine ⟨hA, hB, Nat.le_refl _, Nat.le_refl _, Nat.le_refl _, Int.le_refl _, ?_⟩
  -- `lower_bound ≤ a_lower + b_lower`, and `min · (n - 1)` is monotone
  have hlb : (((if sym = true then 0 else al + bl : Nat) : Nat) : Int) ≤ ((al + bl : Nat) : Int) := by split <;> omega
  have m := Int.le_min.2 ⟨Int.le_trans (Int.min_le_left _ ((n : Int) - 1)) hlb, Int.min_le_right _ _⟩
  unfold bdbRows bdbArgs
  dsimp only
  generalize min _ ((n : Int) - 1) = x at m ⊢
  omega

theorem bdbRows_eq (al au bl bu n : Nat) (hl : al + bl + 1 ≤ n) (hu : au + bu + 1 ≤ n) :
    (bdbRows al au bl bu n n).toNat = al + bl + (au + bu) + 1 := by
  unfold bdbRows bdbArgs
  dsimp only
  omega

/-- without the `gbmv` guard the third call of `_banded_beads` fails `BandPre`: for `num_y ≤ ft + 2` the second call returns fewer
rows than `a_lu = (ft+2, ft+2)` promises -/
theorem beads_third_call_needs_guard : ¬ BandPre (bdbRows 1 1 2 2 3 3).toNat 3 3 3
    (bdbRows 3 3 1 1 3 3).toNat 3 3 3 1 1 (bdbArgs 3 3 1 1 3 3 true).1 3 (bdbArgs 3 3 1 1 3 3 true).2.2 := by
  decide

end PbVerif.Lemmas
