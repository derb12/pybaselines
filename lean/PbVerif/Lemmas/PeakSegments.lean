import PbVerif.Lemmas.Kernels
import Mathlib.Data.List.Forall2
/-! `_find_peak_segments` / `_averaged_interp` (classification.py): every `(start, end)` pair handed to `_interp_inplace`
is a non-empty range inside the data (C05 caller lemma). The `k`-th start is not after the `k`-th end (`peakSegs_le`), both lists are
strictly increasing inside `[0, N)` (`peakSegs_sublist`), and on such lists the two in-place adjustments, which look at one end entry
only, are entrywise maps (`adjStarts_eq_map`, `adjEnds_eq_map`): move left unless at 0, move right unless at `N - 1`. -/
namespace PbVerif.Lemmas
open PbVerif.Kernels

theorem peakSegs_sublist : ∀ (l : List Bool) (prevT : Bool) (off : Nat),
    (peakSegs prevT off l).1.Sublist (List.range' off l.length) ∧
      (peakSegs prevT off l).2.Sublist (List.range' off l.length)
  | [], _, _ => ⟨List.Sublist.refl _, List.Sublist.refl _⟩
  | m :: rest, prevT, off => by
    obtain ⟨h1, h2⟩ := peakSegs_sublist rest m (off + 1)
    simp only [peakSegs, List.length_cons, List.range'_succ]
    constructor <;> split
    · exact h1.cons_cons _
    · exact h1.cons _
    · exact h2.cons_cons _
    · exact h2.cons _

/-- the `k`-th start is not after the `k`-th end. For the induction, a run already in progress at `off` (previous and first entry
both `false`) has an end but no recorded start and is given the start `off`; then at a `false` entry the starts are `off ::` those
of the rest, whatever `prevT` is. -/
theorem peakSegs_le : ∀ (l : List Bool) (prevT : Bool) (off : Nat),
    List.Forall₂ (· ≤ ·)
      (if (!prevT && !(l.headD true)) = true then off :: (peakSegs prevT off l).1 else (peakSegs prevT off l).1)
      (peakSegs prevT off l).2
  | [], _, _ => by simp [peakSegs]
  | true :: rest, prevT, off => by simpa [peakSegs] using peakSegs_le rest true (off + 1)
  | false :: rest, prevT, off => by
    have ih := peakSegs_le rest false (off + 1)
    have hS : (if (!prevT && !((false :: rest).headD true)) = true then off :: (peakSegs prevT off (false :: rest)).1
        else (peakSegs prevT off (false :: rest)).1) = off :: (peakSegs false (off + 1) rest).1 := by
      cases prevT <;> simp [peakSegs]
    rw [hS]
    cases hd : rest.headD true with
    | true =>
      -- the run ends here
      simp only [hd, peakSegs, Bool.not_false, Bool.not_true, Bool.and_false, Bool.true_and, Bool.false_eq_true,
        if_false, if_true] at ih ⊢
      exact List.Forall₂.cons (Nat.le_refl _) ih
    | false =>
      -- the run continues: its end comes later
      simp only [hd, peakSegs, Bool.not_false, Bool.and_self, Bool.true_and, Bool.false_eq_true, if_false,
        if_true] at ih ⊢
      obtain ⟨e, E, h0, ht, hE⟩ := List.forall₂_cons_left_iff.1 ih
      rw [hE]
      exact List.Forall₂.cons (by omega) ht

/-- the starts are strictly increasing, so only the first can be 0: testing it is testing every entry -/
theorem adjStarts_eq_map (S : List Nat) (pw : S.Pairwise (· < ·)) :
    adjStarts S = S.map fun (s : Nat) => if s = 0 then (0 : Int) else (s : Int) - 1 := by
  cases S with
  | nil => rfl
  | cons s0 t =>
    have ht : t.map (fun (p : Nat) => (p : Int) - 1) = t.map fun (p : Nat) => if p = 0 then (0 : Int) else (p : Int) - 1 :=
      List.map_congr_left fun p hp => (if_neg (Nat.ne_zero_of_lt ((List.pairwise_cons.1 pw).1 p hp))).symm
    rw [adjStarts, List.map_cons, ht, List.map_cons]
    split <;> rfl

/-- likewise only the last end can be `N - 1` -/
theorem adjEnds_eq_map (N : Nat) (E : List Nat) (pw : E.Pairwise (· < ·)) (hr : ∀ e ∈ E, e < N) :
    adjEnds N E = E.map fun (e : Nat) => if (e : Int) = (N : Int) - 1 then (e : Int) else (e : Int) + 1 := by
  unfold adjEnds
  cases hl : E.getLast? with
  | none => rw [List.getLast?_eq_none_iff.1 hl]; rfl
  | some last =>
    obtain ⟨D, rfl⟩ := List.getLast?_eq_some_iff.1 hl
    have hD : D.map (fun (e : Nat) => (e : Int) + 1) =
        D.map fun (e : Nat) => if (e : Int) = (N : Int) - 1 then (e : Int) else (e : Int) + 1 :=
      List.map_congr_left fun d hd => by
        have := (List.pairwise_append.1 pw).2.2 d hd last (List.mem_singleton_self _)
        have := hr last (List.mem_append_right _ (List.mem_singleton_self _))
        rw [if_neg (by omega)]
    simp only [List.dropLast_concat, List.map_append, List.map_cons, List.map_nil, hD]
    split <;> rfl

theorem averagedInterp_calls_inb (mask : List Bool) :
    ∀ p ∈ averagedInterpCalls mask, 0 ≤ p.1 ∧ p.1 ≤ p.2 ∧ p.2 < (mask.length : Int) := by
  obtain ⟨hS, hE⟩ := peakSegs_sublist mask true 0
  have le := peakSegs_le mask true 0
  simp only [Bool.not_true, Bool.false_and, Bool.false_eq_true, if_false] at le
  have hr : ∀ e ∈ (peakSegs true 0 mask).2, e < mask.length := fun e he => by
    have := List.mem_range'_1.1 (hE.subset he)
    omega
  rw [averagedInterpCalls, adjStarts_eq_map _ ((List.pairwise_lt_range' 1).sublist hS),
    adjEnds_eq_map _ _ ((List.pairwise_lt_range' 1).sublist hE) hr, List.zip_map]
  intro p hp
  obtain ⟨⟨s, e⟩, hse, rfl⟩ := List.mem_map.1 hp
  have := List.forall₂_zip le hse
  have := hr e (List.of_mem_zip hse).2
  simp only [Prod.map_fst, Prod.map_snd]
  omega

end PbVerif.Lemmas
