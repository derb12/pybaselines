import PbVerif.Model.BandMul
import PbVerif.Lemmas.BandTable
import PbVerif.Lemmas.IRange
/-! The band product (C10). The innermost loop of `_numba_banded_dot_banded` for the diagonals `(o_c, o_a)` runs over the summation
index `k = frame` and writes entry `(i, j) = (k + o_a, k - o_b)`. So each loop level adds a closed-form amount to a given cell
(`Scatter`, with the `range`s read off `IRange`): one frame per column, the one pass `o_c = i - j` per entry, and the diagonals
`o_a = i - k` of that pass give `Σ_k A[i,k]·B[k,j]`. -/
namespace PbVerif.Lemmas
open PbVerif.Whittaker PbVerif.BandMul

def BandShape (t : Tbl) (l u n : Nat) : Prop := t.length = l + u + 1 ∧ ∀ r ∈ t, r.length = n

/-- re-indexing by `x = c - k`: the guard `0 ≤ c - x < n` becomes `k < n` -/
theorem sum_irange_reflect (lo hi c : Int) (n : Nat) (g : Int → Rat) :
    ((irange lo hi).map fun x => if 0 ≤ c - x ∧ c - x < n then g x else 0).sum =
      ((List.range n).map fun (k : Nat) => if c - k ∈ irange lo hi then g (c - k) else 0).sum := by
  rw [← List.sum_toFinset _ (nodup_irange _ _), ← List.sum_toFinset _ List.nodup_range, ← Finset.sum_filter, ← Finset.sum_filter]
  refine Finset.sum_nbij' (fun x => (c - x).toNat) (fun k => c - k) ?_ ?_ ?_ ?_ ?_
  all_goals simp only [Finset.mem_filter, List.mem_toFinset, List.mem_range]
  · rintro x ⟨hx, h0, h1⟩
    rw [Int.toNat_of_nonneg h0, sub_sub_cancel]
    exact ⟨by omega, hx⟩
  · rintro k ⟨hk, hm⟩
    exact ⟨hm, by omega, by omega⟩
  · rintro x ⟨_, h0, _⟩
    rw [Int.toNat_of_nonneg h0, sub_sub_cancel]
  · rintro k _
    rw [sub_sub_cancel, Int.toNat_natCast]
  · rintro x ⟨_, h0, _⟩
    rw [Int.toNat_of_nonneg h0, sub_sub_cancel]

theorem shape_frames (a b : Tbl) (au bu cu n : Nat) (oc oa : Int) (c : Tbl) (R : Nat) (hc : TblShape c R n) :
    TblShape (frames a b au bu cu n oc oa c) R n :=
  foldl_keeps (TblShape · R n) _ _ (fun _ _ ht => shape_addAt ht _ _ _) c hc

/-- the guard: the summation index `cc + (oc - oa)` and the row `cc + oc` of the product lie inside the matrix. `tget`, `tadd` of
`Model/BandMul` unfold to `ent` and the update of `ent_addAt`, which is how `foldl_adds` applies -/
theorem tget_frames (a b : Tbl) (au bu cu n : Nat) (oc oa : Int) (c : Tbl) (R : Nat)
    (hc : TblShape c R n) (r cc : Nat) (hr : r < R) (hcc : cc < n) :
    tget (frames a b au bu cu n oc oa c) r cc = tget c r cc +
      if (0 ≤ (cc : Int) + (oc - oa) ∧ (cc : Int) + (oc - oa) < n ∧ 0 ≤ (cc : Int) + oc ∧ (cc : Int) + oc < n) ∧
          ((cu : Int) + oc).toNat = r then
        tget a ((au : Int) + oa).toNat ((cc : Int) + (oc - oa)).toNat * tget b ((bu : Int) + (oc - oa)).toNat cc
      else 0 := by
  refine (foldl_adds (TblShape · R n) (ent · r cc) _ (fun fr => if ((cu : Int) + oc).toNat = r ∧ (fr - (oc - oa)).toNat = cc then
      tget a ((au : Int) + oa).toNat fr.toNat * tget b ((bu : Int) + (oc - oa)).toNat (fr - (oc - oa)).toNat else 0) _
    (fun _ _ _ ht => ⟨shape_addAt ht _ _ _, ent_addAt ht _ _ _ r cc hr hcc⟩) c hc).2.trans (congrArg _ ?_)
  rw [sum_single _ (nodup_irange _ _) _ ((cc : Int) + (oc - oa))]
  · simp only [mem_frames, add_sub_cancel_right, sub_add_cancel, add_assoc, Int.toNat_natCast, Int.natCast_nonneg, Nat.cast_lt, hcc,
      and_true, ← ite_and]
  · intro fr hfr hne
    have := (mem_frames oa (oc - oa) fr n).1 hfr
    exact if_neg fun h => hne (by omega)

theorem shape_bandMul (a b : Tbl) (al au bl bu cu n rows lb : Nat) : TblShape (bandMul a b al au bl bu cu n rows lb) rows n :=
  foldl_keeps (TblShape · rows n) _ _ (fun _ _ ht => foldl_keeps (TblShape · rows n) _ _
    (fun _ _ ht => shape_frames a b au bu cu n _ _ _ rows ht) _ ht) _ (shape_zero_rows rows n)

theorem tget_bandMul (a b : Tbl) (al au bl bu cu n rows lb : Nat) (r cc : Nat) (hr : r < rows) (hcc : cc < n) :
    tget (bandMul a b al au bl bu cu n rows lb) r cc =
      ((irange (-((au + bu : Nat) : Int)) ((lb : Int) + 1)).map fun oc =>
        ((irange (-(min (au : Int) ((bl : Int) - oc))) (min (al : Int) ((bu : Int) + oc) + 1)).map fun oa =>
          if (0 ≤ (cc : Int) + (oc - oa) ∧ (cc : Int) + (oc - oa) < n ∧ 0 ≤ (cc : Int) + oc ∧ (cc : Int) + oc < n) ∧
              ((cu : Int) + oc).toNat = r then
            tget a ((au : Int) + oa).toNat ((cc : Int) + (oc - oa)).toNat * tget b ((bu : Int) + (oc - oa)).toNat cc
          else 0).sum).sum := by
  have inner := fun (oc : Int) => foldl_adds (TblShape · rows n) (ent · r cc)
    (fun (c : Tbl) (oa : Int) => frames a b au bu cu n oc oa c) _
    (irange (-(min (au : Int) ((bl : Int) - oc))) (min (al : Int) ((bu : Int) + oc) + 1))
    fun t oa _ ht => ⟨shape_frames a b au bu cu n oc oa t rows ht, tget_frames a b au bu cu n oc oa t rows ht r cc hr hcc⟩
  refine (foldl_adds (TblShape · rows n) (ent · r cc) _ _ _ (fun t oc _ ht => inner oc t ht) _
    (shape_zero_rows rows n)).2.trans ?_
  rw [ent_zero_rows, zero_add]

/-- on the pass `o_c = i - j` the middle loop visits `o_a = i - k` iff `(i, k)` lies in the band of `a` and `(k, j)` in that of `b` -/
theorem diag_mem (al au bl bu i j k : Nat) :
    (i : Int) - k ∈ irange (-(min (au : Int) ((bl : Int) - ((i : Int) - j)))) (min (al : Int) ((bu : Int) + ((i : Int) - j)) + 1) ↔
      (k ≤ i + au ∧ i ≤ k + al) ∧ j ≤ k + bu ∧ k ≤ j + bl :=
  (mem_offsets al au bl bu _ _).trans (by omega)

theorem toNat_band (u i k : Nat) (h : k ≤ i + u) : ((u : Int) + ((i : Int) - k)).toNat = u + i - k := by
  rw [← add_sub_assoc, ← Nat.cast_add, ← Nat.cast_sub (by rwa [Nat.add_comm]), Int.toNat_natCast]

/-- `hcu`: `_banded_dot_banded` passes `c_upper = min(a_upper + b_upper, n - 1)` -/
theorem bandMul_den (a b : Tbl) (al au bl bu cu n rows lb i j : Nat) (hi : i < n) (hj : j < n)
    (hcu : min (au + bu) (n - 1) ≤ cu) (hrows : cu + i - j < rows) (hu : j ≤ i + (au + bu)) (hl : i ≤ j + lb) :
    tget (bandMul a b al au bl bu cu n rows lb) (cu + i - j) j = prodAt a b al au bl bu n i j := by
  have hc : j ≤ i + cu := by omega
  unfold prodAt
  rw [Whittaker.sumL_eq_sum, tget_bandMul a b al au bl bu cu n rows lb _ _ hrows hj,
    sum_single _ (nodup_irange _ _) _ ((i : Int) - j), if_pos (by rw [mem_irange]; omega)]
  · -- re-index the diagonals `oa` of the pass by `k = i - oa`
    have e : ∀ oa : Int, (j : Int) + ((i : Int) - j - oa) = i - oa := fun oa => by rw [sub_right_comm, add_sub_cancel]
    simp only [den, ite_zero_mul_ite_zero, toNat_band _ i j hc, e, add_sub_cancel, Int.natCast_nonneg, Nat.cast_lt, hi, hj, true_and,
      and_true]
    rw [sum_irange_reflect]
    refine congrArg List.sum (List.map_congr_left fun k hk => ?_)
    refine if_ctx_congr ((diag_mem al au bl bu i j k).trans (by simp only [List.mem_range.1 hk, true_and])) (fun h => ?_) fun _ => rfl
    rw [sub_sub_cancel, Int.toNat_natCast, sub_sub_sub_cancel_left, toNat_band au i k h.1.2.1, toNat_band bu k j h.2.2.1]
  · -- a pass `oc ≠ i - j` writes another row: where its frames are not empty `|oc| < n`, so `cu + oc` is not clamped at 0
    intro oc hoc hne
    rw [mem_irange] at hoc
    refine List.sum_eq_zero (List.forall_mem_map.2 fun oa _ => if_neg ?_)
    rintro ⟨⟨_, _, h1, h2⟩, h⟩
    omega

end PbVerif.Lemmas
