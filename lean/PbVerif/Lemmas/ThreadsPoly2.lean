import PbVerif.Lemmas.ThreadsHeap
/-! C04: the 2-D Vandermonde / pseudo-inverse cache under every interleaving of calls with the same (orders, max_cross). -/
namespace PbVerif.Lemmas
open PbVerif.Threads PbVerif.Threads.Poly2

def poly2Threads (a b : Nat) (cfg : List (Bool × Nat)) : List Thr := cfg.map fun c => thread a b c.1 c.2

/-! ## the invariant, built like `PolyInv` -/
namespace Poly2Inv

/-- published: both key fields, the two stored last, already hold the common `(a, b)` -/
def Pub (a b : Nat) (H : Helper) : Prop :=
  H.po = a ∧ H.mc = b ∧ H.v = some (a, b) ∧ (H.stale = false → H.pinv = some (a, b))

/-- unlike `PolyInv.OK`, nothing is required of a helper with an old key field: its matrix is never sliced, only rebuilt -/
def OK (a b : Nat) (H : Helper) : Prop := H.po = a → H.mc = b → Pub a b H

theorem Pub.v {a b : Nat} {H : Helper} (hp : Pub a b H) : H.v = some (a, b) := hp.2.2.1

theorem Pub.pinv {a b : Nat} {H : Helper} (hp : Pub a b H) (hs : H.stale = false) : H.pinv = some (a, b) :=
  hp.2.2.2 hs

structure Evo (a b : Nat) (H H' : Helper) : Prop where
  ok : OK a b H → OK a b H'
  pub : Pub a b H → Pub a b H'
  v : H.v = some (a, b) → H'.v = some (a, b)
  pinv : Pub a b H → H.pinv = some (a, b) → H'.pinv = some (a, b)
  st : Pub a b H ∨ H.stale = true → Pub a b H' ∨ H'.stale = true
  po : H.po = a → H'.po = a
  mc : H.mc = b → H'.mc = b

theorem Evo.refl (a b : Nat) (H : Helper) : Evo a b H H := ⟨id, id, id, fun _ h => h, id, id, id⟩

/- as in `PolyInv`: `Heap.At`, `Heap.RefPub (Pub a b)`, `Heap.Bound` and `Heap.Evolves (Evo …)` unfolded -/
def At (s : Sh) (h : Nat) (p : Helper → Prop) : Prop := ∃ H, s.heap[h]? = some H ∧ p H

def RefPub (a b : Nat) (s : Sh) : Prop := ∃ r, s.ref = some r ∧ At s r (Pub a b)

structure Ext (a b : Nat) (s s' : Sh) : Prop where
  heap : ∀ (h : Nat) (H : Helper), s.heap[h]? = some H → ∃ H', s'.heap[h]? = some H' ∧ Evo a b H H'
  ref : s'.ref = s.ref ∨ RefPub a b s'

theorem Ext.refl (a b : Nat) (s : Sh) : Ext a b s s := ⟨fun _ H hH => ⟨H, hH, Evo.refl a b H⟩, Or.inl rfl⟩

abbrev G (a b : Nat) (s : Sh) : Prop := Heap.Good (OK a b) s.ref s.heap

def Bound (a b : Nat) (s : Sh) (h : Nat) : Prop := At s h (fun _ => True) ∧ (RefPub a b s ∨ s.ref = some h)

theorem At.stable {a b : Nat} {s s' : Sh} {h : Nat} {p : Helper → Prop} (hE : Ext a b s s')
    (hp : ∀ H H', Evo a b H H' → p H → p H') : At s h p → At s' h p :=
  Heap.At.stable hE.heap hp

theorem At.pub {a b : Nat} {s s' : Sh} {h : Nat} (hE : Ext a b s s') : At s h (Pub a b) → At s' h (Pub a b) :=
  At.stable hE fun _ _ e => e.pub

theorem At.pub_pinv {a b : Nat} {s s' : Sh} {h : Nat} (hE : Ext a b s s') :
    At s h (fun H => Pub a b H ∧ H.pinv = some (a, b)) → At s' h (fun H => Pub a b H ∧ H.pinv = some (a, b)) :=
  At.stable hE fun _ _ e hp => ⟨e.pub hp.1, e.pinv hp.1 hp.2⟩

theorem RefPub.stable {a b : Nat} {s s' : Sh} (hE : Ext a b s s') : RefPub a b s → RefPub a b s' :=
  Heap.RefPub.stable hE.heap (fun _ _ e => e.pub) hE.ref

theorem Bound.stable {a b : Nat} {s s' : Sh} {h : Nat} (hE : Ext a b s s') : Bound a b s h → Bound a b s' h :=
  Heap.Bound.stable hE.heap (fun _ _ e => e.pub) hE.ref

def Got (a b : Nat) (t : Thr) : Prop := t.calcPinv = true → t.gotPinv = some (some (a, b))

def Lpc (a b : Nat) (s : Sh) (t : Thr) : PC → Prop
  | .start => True
  | .publish => True
  | .bind => s.ref ≠ none
  | .rV0 h => Bound a b s h
  | .rMc h => Bound a b s h
  | .rPo h => Bound a b s h ∧ At s h (fun H => H.mc = b)
  | .wStale h => Bound a b s h
  | .wV h => Bound a b s h ∧ At s h (fun H => Pub a b H ∨ H.stale = true)
  | .setPo h => Bound a b s h ∧ At s h (fun H => H.v = some (a, b) ∧ (Pub a b H ∨ H.stale = true))
  | .setMc h => Bound a b s h ∧ At s h (fun H => H.v = some (a, b) ∧ (Pub a b H ∨ H.stale = true) ∧ H.po = a)
  | .pinvBind => RefPub a b s
  | .pStale h => RefPub a b s ∧ At s h (Pub a b)
  | .pNone h => RefPub a b s ∧ At s h (fun H => Pub a b H ∧ H.pinv = some (a, b))
  | .pReadV h => RefPub a b s ∧ At s h (Pub a b)
  | .pWrite h v => RefPub a b s ∧ At s h (Pub a b) ∧ v = some (a, b)
  | .pClear h => RefPub a b s ∧ At s h (fun H => Pub a b H ∧ H.pinv = some (a, b))
  | .pRet h => RefPub a b s ∧ At s h (fun H => Pub a b H ∧ H.pinv = some (a, b))
  | .useBind _ => RefPub a b s ∧ Got a b t
  | .useV h _ => RefPub a b s ∧ At s h (Pub a b) ∧ Got a b t
  | .done => Got a b t
  | .error => False

def L (a b : Nat) (s : Sh) (t : Thr) : Prop := t.a = a ∧ t.b = b ∧ t.usedOk = true ∧ Lpc a b s t t.pc

theorem Lpc.stable {a b : Nat} {s s' : Sh} (hE : Ext a b s s') (t : Thr) (pc : PC) :
    Lpc a b s t pc → Lpc a b s' t pc := by
  cases pc <;> simp only [Lpc]
  case start | publish | done | error => exact id
  case bind => exact Heap.ref_ne_none hE.ref
  case rV0 | rMc | wStale => exact Bound.stable hE
  case rPo => exact And.imp (Bound.stable hE) (At.stable hE fun _ _ e => e.mc)
  case wV => exact And.imp (Bound.stable hE) (At.stable hE fun _ _ e => e.st)
  case setPo => exact And.imp (Bound.stable hE) (At.stable hE fun _ _ e hp => ⟨e.v hp.1, e.st hp.2⟩)
  case setMc => exact And.imp (Bound.stable hE) (At.stable hE fun _ _ e hp => ⟨e.v hp.1, e.st hp.2.1, e.po hp.2.2⟩)
  case pinvBind => exact RefPub.stable hE
  case pStale | pReadV => exact And.imp (RefPub.stable hE) (At.pub hE)
  case pNone | pClear | pRet => exact And.imp (RefPub.stable hE) (At.pub_pinv hE)
  case pWrite | useV => exact And.imp (RefPub.stable hE) (And.imp_left (At.pub hE))
  case useBind => exact And.imp_left (RefPub.stable hE)

theorem L.stable {a b : Nat} {s s' : Sh} (hE : Ext a b s s') (t : Thr) : L a b s t → L a b s' t :=
  fun ⟨x, y, z, w⟩ => ⟨x, y, z, Lpc.stable hE t t.pc w⟩

theorem Evo.of_imp {a b : Nat} {H H' : Helper} (hpo : H'.po = H.po) (hmc : H'.mc = H.mc) (hpub : Pub a b H → Pub a b H')
    (hv : H.v = some (a, b) → H'.v = some (a, b)) (hpi : H.pinv = some (a, b) → H'.pinv = some (a, b))
    (hst : H.stale = true → H'.stale = true) : Evo a b H H' :=
  ⟨fun hok h1 h2 => hpub (hok (hpo.symm.trans h1) (hmc.symm.trans h2)), hpub, hv, fun _ => hpi, Or.imp hpub hst,
    hpo.trans, hmc.trans⟩

theorem Evo.of_pub {a b : Nat} {H H' : Helper} (hp : Pub a b H') (hpi : H.pinv = some (a, b) → H'.pinv = some (a, b)) :
    Evo a b H H' :=
  ⟨fun _ _ _ => hp, fun _ => hp, fun _ => hp.v, fun _ => hpi, fun _ => Or.inl hp, fun _ => hp.1, fun _ => hp.2.1⟩

theorem Evo.setV (a b : Nat) (H : Helper) : Evo a b H { H with v := some (a, b) } :=
  .of_imp rfl rfl (fun hp => ⟨hp.1, hp.2.1, rfl, hp.2.2.2⟩) (fun _ => rfl) id id

theorem Evo.setStale (a b : Nat) (H : Helper) : Evo a b H { H with stale := true } :=
  .of_imp rfl rfl (fun hp => ⟨hp.1, hp.2.1, hp.2.2.1, nofun⟩) id id fun _ => rfl

theorem Evo.setPinv (a b : Nat) (H : Helper) : Evo a b H { H with pinv := some (a, b) } :=
  .of_imp rfl rfl (fun hp => ⟨hp.1, hp.2.1, hp.2.2.1, fun _ => rfl⟩) id (fun _ => rfl) id

/-- `pinv_stale = True` is stored before the matrix, and stands until a key field publishes the helper -/
theorem pinv_of_st {a b : Nat} {H : Helper} (hs : Pub a b H ∨ H.stale = true) (hst : H.stale = false) :
    H.pinv = some (a, b) :=
  hs.elim (fun hp => hp.pinv hst) fun h => nomatch h.symm.trans hst

theorem st_setPo (a b : Nat) (H : Helper) (hs : Pub a b H ∨ H.stale = true) :
    Pub a b { H with po := a } ∨ ({ H with po := a } : Helper).stale = true :=
  hs.imp_left fun hp => ⟨rfl, hp.2.1, hp.2.2.1, hp.2.2.2⟩

theorem Evo.setPo (a b : Nat) (H : Helper) (hv : H.v = some (a, b)) (hs : Pub a b H ∨ H.stale = true) :
    Evo a b H { H with po := a } where
  ok := fun _ _ hmc => ⟨rfl, hmc, hv, pinv_of_st (H := H) hs⟩
  pub := fun hp => ⟨rfl, hp.2.1, hp.2.2.1, hp.2.2.2⟩
  v := id
  pinv := fun _ => id
  st := fun _ => st_setPo a b H hs
  po := fun _ => rfl
  mc := id

theorem Pub.setMc (a b : Nat) (H : Helper) (hv : H.v = some (a, b)) (hs : Pub a b H ∨ H.stale = true) (hpo : H.po = a) :
    Pub a b { H with mc := b } :=
  ⟨hpo, rfl, hv, pinv_of_st (H := H) hs⟩

theorem Pub.new (a b : Nat) : Pub a b ⟨some (a, b), a, b, true, none⟩ := ⟨rfl, rfl, rfl, fun h => by cases h⟩

theorem Pub.clear (a b : Nat) (H : Helper) (hp : Pub a b H) (hpi : H.pinv = some (a, b)) :
    Pub a b { H with stale := false } :=
  ⟨hp.1, hp.2.1, hp.2.2.1, fun _ => hpi⟩

/-- what `hstep` of `runSched_rely` asks of a step, with rely `Ext` -/
def Post (a b : Nat) (s : Sh) (r : Sh × Thr × Option Act) : Prop := Ext a b s r.1 ∧ G a b r.1 ∧ L a b r.1 r.2.1

theorem Post.same {a b : Nat} {s : Sh} {t' : Thr} (hG : G a b s) (hL : L a b s t') {x : Option Act} :
    Post a b s (s, t', x) := ⟨Ext.refl a b s, hG, hL⟩

theorem Post.upd {a b : Nat} {s : Sh} {t' : Thr} {h : Nat} {f : Helper → Helper} (hG : G a b s)
    (hE : ∀ H, s.heap[h]? = some H → Evo a b H (f H))
    (hL : Ext a b s (upd s h f) → L a b (upd s h f) t') {x : Option Act} :
    Post a b s (upd s h f, t', x) :=
  have hX : Ext a b s (Poly2.upd s h f) := ⟨Heap.Evolves.modify (Evo.refl a b) hE, Or.inl rfl⟩
  ⟨hX, hG.modify fun H hH => (hE H hH).ok, hL hX⟩

/-- a read of helper `h`: the thread knows that it exists (`hA`), so the `none` branch `e` is dead -/
theorem Post.read {a b : Nat} {s : Sh} {h : Nat} {p : Helper → Prop} (hG : G a b s) (hA : At s h p)
    {e : Sh × Thr × Option Act} {f : Helper → Thr} {x : Option Act}
    (hL : ∀ H, s.heap[h]? = some H → p H → L a b s (f H)) :
    Post a b s (match s.heap[h]? with | none => e | some H => (s, f H, x)) := by
  obtain ⟨H, hH, hp⟩ := hA
  rw [hH]
  exact Post.same hG (hL H hH hp)

theorem L_after {a b : Nat} {s' : Sh} (t : Thr) (ha : t.a = a) (hb : t.b = b) (hok : t.usedOk = true) (hR : RefPub a b s') :
    L a b s' { t with pc := afterSetup t } := by
  refine ⟨ha, hb, hok, ?_⟩
  simp only [afterSetup]
  cases hc : t.calcPinv <;> simp [Lpc, hR, Got]

theorem step_post {a b : Nat} (s : Sh) (t : Thr) (hG : G a b s) (hL : L a b s t) : Post a b s (step s t) := by
  obtain ⟨a', b', cp, u, pc, g, ok⟩ := t
  obtain ⟨ha, hb, hok, hpc⟩ := hL
  simp only at ha hb hok hpc   -- as in `PolyInv.step_post`
  subst ha hb hok
  cases pc <;> dsimp only [Lpc] at hpc <;> dsimp only [step]
  case start =>
    cases hr : s.ref with
    | none => exact Post.same hG (by exact ⟨rfl, rfl, rfl, trivial⟩)
    | some r => exact Post.same hG (by exact ⟨rfl, rfl, rfl, fun h => nomatch hr.symm.trans h⟩)
  case publish =>
    have hR : RefPub a' b' ⟨some s.heap.length, s.heap ++ [_]⟩ := ⟨_, rfl, _, List.getElem?_concat_length, Pub.new a' b'⟩
    exact ⟨⟨Heap.Evolves.append (Evo.refl a' b') _ _, Or.inr hR⟩, hG.publish fun _ _ => Pub.new a' b',
      L_after ⟨a', b', cp, u, .publish, g, true⟩ rfl rfl rfl hR⟩
  case bind =>
    cases hr : s.ref with
    | none => exact absurd hr hpc
    | some h => exact Post.same hG (by exact ⟨rfl, rfl, rfl, hG.ref h hr, Or.inr hr⟩)
  case rV0 h => exact Post.read hG hpc.1 fun H _ _ => ⟨rfl, rfl, rfl, by split <;> exact hpc⟩
  case rMc h =>
    refine Post.read hG hpc.1 fun H hH _ => ⟨rfl, rfl, rfl, ?_⟩
    split
    · exact hpc
    · rename_i hne
      exact ⟨hpc, H, hH, Decidable.of_not_not hne⟩
  case rPo h =>
    refine Post.read hG hpc.2 fun H hH hmc => ⟨rfl, rfl, rfl, ?_⟩
    split
    · exact hpc.1
    · rename_i hne
      have hp : Pub a' b' H := hG.ok h H hH (Decidable.of_not_not hne) hmc
      exact ⟨hpc.1, H, hH, hp.v, Or.inl hp⟩
  case wStale h =>
    exact Post.upd hG (fun H _ => Evo.setStale a' b' H)
      (fun hE => by exact ⟨rfl, rfl, rfl, Bound.stable hE hpc, Heap.At.modify hpc.1 fun _ _ => Or.inr rfl⟩)
  case wV h =>
    exact Post.upd hG (fun H _ => Evo.setV a' b' H)
      (fun hE => by exact ⟨rfl, rfl, rfl, Bound.stable hE hpc.1,
        Heap.At.modify hpc.2 fun H hs => ⟨rfl, (Evo.setV a' b' H).st hs⟩⟩)
  case setPo h =>
    obtain ⟨hB, hA⟩ := hpc
    exact Post.upd hG (fun H hH => Evo.setPo a' b' H (Heap.At.get hA hH).1 (Heap.At.get hA hH).2)
      (fun hE => by exact ⟨rfl, rfl, rfl, Bound.stable hE hB,
        Heap.At.modify hA fun H hp => ⟨hp.1, st_setPo a' b' H hp.2, rfl⟩⟩)
  case setMc h =>
    obtain ⟨hB, hA⟩ := hpc
    have hp := fun H (hp : _ ∧ _ ∧ _) => Pub.setMc a' b' H hp.1 hp.2.1 hp.2.2
    exact Post.upd hG (fun H hH => Evo.of_pub (hp H (Heap.At.get hA hH :)) id) fun hE =>
      L_after ⟨a', b', cp, u, .setMc h, g, true⟩ rfl rfl rfl (Heap.Bound.refPub (Bound.stable hE hB) (Heap.At.modify hA hp))
  case pinvBind =>
    obtain ⟨r, hr, hA⟩ := hpc
    rw [hr]
    exact Post.same hG (by exact ⟨rfl, rfl, rfl, ⟨r, hr, hA⟩, hA⟩)
  case pStale h =>
    refine Post.read hG hpc.2 fun H hH hp => ⟨rfl, rfl, rfl, ?_⟩
    split
    · exact hpc
    · rename_i hs
      exact ⟨hpc.1, H, hH, hp, hp.pinv (eq_false_of_ne_true hs)⟩
  case pNone h =>
    refine Post.read hG hpc.2 fun H hH hp => ⟨rfl, rfl, rfl, ?_⟩
    split
    · exact ⟨hpc.1, H, hH, hp.1⟩
    · exact hpc
  case pReadV h => exact Post.read hG hpc.2 fun H hH hp => ⟨rfl, rfl, rfl, hpc.1, ⟨H, hH, hp⟩, hp.v⟩
  case pWrite h v =>
    obtain ⟨hR, hA, rfl⟩ := hpc
    exact Post.upd hG (fun H _ => Evo.setPinv a' b' H)
      (fun hE => by exact ⟨rfl, rfl, rfl, RefPub.stable hE hR,
        Heap.At.modify hA fun H hp => ⟨(Evo.setPinv a' b' H).pub hp, rfl⟩⟩)
  case pClear h =>
    obtain ⟨hR, hA⟩ := hpc
    exact Post.upd hG (fun H hH => Evo.of_pub (Pub.clear a' b' H (Heap.At.get hA hH).1 (Heap.At.get hA hH).2) id)
      (fun hE => by exact ⟨rfl, rfl, rfl, RefPub.stable hE hR, At.pub_pinv hE hA⟩)
  case pRet h => exact Post.read hG hpc.2 fun H _ hp => ⟨rfl, rfl, rfl, hpc.1, fun _ => congrArg some hp.2⟩
  case useBind n =>
    obtain ⟨hR, hg⟩ := hpc
    cases n with
    | zero => exact Post.same hG (by exact ⟨rfl, rfl, rfl, hg⟩)
    | succ n =>
      obtain ⟨r, hr, hA⟩ := hR
      simp only [hr]
      exact Post.same hG (by exact ⟨rfl, rfl, rfl, ⟨r, hr, hA⟩, hA, hg⟩)
  case useV h n => exact Post.read hG hpc.2.1 fun H _ hp => ⟨rfl, rfl, decide_eq_true hp.v, hpc.1, hpc.2.2⟩
  case done => exact Post.same hG (by exact ⟨rfl, rfl, rfl, hpc⟩)

theorem L.serial {a b : Nat} {s : Sh} {t : Thr} (hL : L a b s t) : t.serialOutcome := by
  obtain ⟨rfl, rfl, hok, hpc⟩ := hL
  exact ⟨fun h => by rw [h] at hpc; exact hpc, hok, fun h hc => by rw [h] at hpc; exact hpc hc⟩

/-- from ANY state whose helpers are `OK`: cold, warm, or left by an earlier concurrent run -/
theorem safe_of_init (a b : Nat) (s : Sh) (hG : G a b s) (cfg : List (Bool × Nat)) (sched : List Nat) :
    ∀ t ∈ (runSched proto s (cfg.map fun c => thread a b c.1 c.2) sched).2, t.serialOutcome :=
  runSched_safe proto (G a b) (L a b) (Ext a b) _ (fun _ _ u hE => L.stable hE u) step_post (fun _ _ h => h.serial) s
    (cfg.map fun c => thread a b c.1 c.2) hG
    (fun t ht => by obtain ⟨c, -, rfl⟩ := List.mem_map.1 ht; exact ⟨rfl, rfl, rfl, trivial⟩) sched

theorem G_warm (a0 b0 a b : Nat) (pinvDone : Bool) : G a b (warm a0 b0 pinvDone) := by
  refine Heap.Good.nil.publish fun hpo hmc => ?_
  subst hpo hmc
  exact ⟨rfl, rfl, rfl, by cases pinvDone <;> simp⟩

end Poly2Inv

/-! ## termination -/

/-- own steps left on the longest path to `done`: 9 for the setup (`start` … `setMc`), 7 for the pseudo-inverse, 2 for each use,
1 to finish -/
def p2rank (t : Thr) : Nat :=
  match t.pc with
  | .start => 2*t.uses + 17
  | .publish => 2*t.uses + 9
  | .bind => 2*t.uses + 16
  | .rV0 _ => 2*t.uses + 15
  | .rMc _ => 2*t.uses + 14
  | .rPo _ => 2*t.uses + 13
  | .wStale _ => 2*t.uses + 12
  | .wV _ => 2*t.uses + 11
  | .setPo _ => 2*t.uses + 10
  | .setMc _ => 2*t.uses + 9
  | .pinvBind => 2*t.uses + 8
  | .pStale _ => 2*t.uses + 7
  | .pNone _ => 2*t.uses + 6
  | .pReadV _ => 2*t.uses + 5
  | .pWrite _ _ => 2*t.uses + 4
  | .pClear _ => 2*t.uses + 3
  | .pRet _ => 2*t.uses + 2
  | .useBind n => 2*n + 1
  | .useV _ n => 2*n + 2
  | .done => 0
  | .error => 0

theorem p2rank_step (s : Sh) (t : Thr) : p2rank (step s t).2.1 ≤ p2rank t - 1 := by
  obtain ⟨a, b, cp, u, pc, g, ok⟩ := t
  cases pc
  case useBind n => cases n <;> dsimp only [step] <;> (try split) <;> simp [p2rank] <;> omega
  all_goals dsimp only [step, afterSetup] <;> (repeat' split) <;> simp [p2rank]

theorem p2rank_zero (t : Thr) (h : p2rank t = 0) : t.pc = .done ∨ t.pc = .error := by
  obtain ⟨a, b, cp, u, pc, g, ok⟩ := t
  cases pc <;> simp [p2rank] at h ⊢

theorem poly2_rank_terminates (s : Sh) (ts : List Thr) (sched : List Nat) (i : Nat) (t : Thr) (h0 : ts[i]? = some t)
    (hc : p2rank t ≤ sched.count i) :
    ∃ t', (runSched proto s ts sched).2[i]? = some t' ∧ (t'.pc = .done ∨ t'.pc = .error) :=
  let ⟨t', h1, h2⟩ := runSched_rank proto p2rank p2rank_step i sched s ts t h0 hc
  ⟨t', h1, p2rank_zero t' h2⟩

end PbVerif.Lemmas
