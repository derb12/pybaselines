import PbVerif.Model.Whittaker
import PbVerif.Model.Backend
import PbVerif.Lemmas.Banded
import PbVerif.Lemmas.Scatter
import PbVerif.Lemmas.SumAux
import Mathlib.Tactic.Ring
/-! Band arrays as tables: the entry `ent ab r c` and the shape `TblShape ab R n` of every array operation of
`Model/Whittaker`, what the three storage conventions (`denLower`, `denFull`, `denRowwise`) read in terms of entries,
and the penalty bands `bandsQ`, which store `D'D`. -/
namespace PbVerif.Lemmas
open PbVerif.Banded PbVerif.Whittaker PbVerif.Backend

theorem TblShape.cast {T : List (List Rat)} {R R' n : Nat} (h : TblShape T R n) (e : R = R') : TblShape T R' n := e ▸ h

theorem TblShape.length_of_mem {T : List (List Rat)} {R n : Nat} (h : TblShape T R n) : ∀ r ∈ T, r.length = n := by
  intro r hr
  obtain ⟨k, hk, rfl⟩ := List.getElem_of_mem hr
  rw [← getD_of_lt [] hk]
  exact h.2 k (h.1 ▸ hk)

theorem TblShape.of_length_of_mem {T : List (List Rat)} {n : Nat} (h : ∀ r ∈ T, r.length = n) : TblShape T T.length n :=
  ⟨rfl, fun r hr => by rw [getD_of_lt [] hr]; exact h _ (List.getElem_mem hr)⟩

theorem ent_oob_row (ab : List (List Rat)) (r c : Nat) (h : ab.length ≤ r) : ent ab r c = 0 := by
  unfold ent; rw [getD_of_le _ h]; rfl

theorem ent_oob_col (ab : List (List Rat)) (R n r c : Nat) (hs : TblShape ab R n) (h : n ≤ c) : ent ab r c = 0 := by
  by_cases hr : r < R
  · unfold ent; rw [getD_of_le _ (by rw [hs.2 r hr]; exact h)]
  · exact ent_oob_row _ _ _ (by rw [hs.1]; omega)

theorem getD_scale (c : Rat) (ab : List (List Rat)) (r : Nat) : (scale c ab).getD r [] = (ab.getD r []).map (c * ·) :=
  getD_map _ r rfl

theorem ent_scale (c : Rat) (ab : List (List Rat)) (r k : Nat) : ent (scale c ab) r k = c * ent ab r k := by
  unfold ent
  rw [getD_scale, getD_map (d := 0) _ k (mul_zero c)]

theorem shape_scale (c : Rat) (ab : List (List Rat)) (R n : Nat) (h : TblShape ab R n) : TblShape (scale c ab) R n :=
  ⟨by simp [scale, h.1], fun r hr => by rw [getD_scale, List.length_map, h.2 r hr]⟩

theorem getD_colScale (ab : List (List Rat)) (w : List Rat) (r : Nat) :
    (colScale ab w).getD r [] = List.zipWith (· * ·) (ab.getD r []) w :=
  getD_map _ r rfl

theorem ent_colScale (ab : List (List Rat)) (w : List Rat) (r k : Nat) :
    ent (colScale ab w) r k = ent ab r k * w.getD k 0 := by
  unfold ent
  rw [getD_colScale, getD_zipWith (· * ·) _ _ 0 k zero_mul mul_zero]

theorem shape_colScale (ab : List (List Rat)) (w : List Rat) (R n : Nat) (h : TblShape ab R n) (hw : w.length = n) :
    TblShape (colScale ab w) R n :=
  ⟨by simp [colScale, h.1], fun r hr => by rw [getD_colScale, List.length_zipWith, h.2 r hr, hw, Nat.min_self]⟩

theorem getD_addB (a b : List (List Rat)) (R n r : Nat) (ha : TblShape a R n) (hb : TblShape b R n) (hr : r < R) :
    (addB a b).getD r [] = List.zipWith (· + ·) (a.getD r []) (b.getD r []) :=
  getD_zipWith_of_lt _ [] [] [] (by rw [ha.1]; exact hr) (by rw [hb.1]; exact hr)

theorem ent_addB (a b : List (List Rat)) (R n r k : Nat) (ha : TblShape a R n) (hb : TblShape b R n) :
    ent (addB a b) r k = ent a r k + ent b r k := by
  by_cases hr : r < R
  · unfold ent
    rw [getD_addB a b R n r ha hb hr, getD_zipWith_of_length_eq (· + ·) 0 k (by rw [ha.2 r hr, hb.2 r hr]) (add_zero 0)]
  · rw [ent_oob_row _ _ _ (by simp [addB, ha.1, hb.1]; omega), ent_oob_row a _ _ (by rw [ha.1]; omega),
      ent_oob_row b _ _ (by rw [hb.1]; omega), add_zero]

theorem shape_addB (a b : List (List Rat)) (R n : Nat) (ha : TblShape a R n) (hb : TblShape b R n) :
    TblShape (addB a b) R n :=
  ⟨by simp [addB, ha.1, hb.1], fun r hr => by
    rw [getD_addB a b R n r ha hb hr, List.length_zipWith, ha.2 r hr, hb.2 r hr, Nat.min_self]⟩

theorem ent_addRow (ab : List (List Rat)) (k : Nat) (w : List Rat) (R n r c : Nat) (h : TblShape ab R n) (hw : w.length = n) :
    ent (addRow ab k w) r c = if r = k ∧ r < R then ent ab r c + w.getD c 0 else ent ab r c := by
  unfold ent addRow
  rw [getD_modify, h.1]
  by_cases hk : r = k ∧ r < R
  · rw [if_pos ⟨hk.1.symm, hk.2⟩, if_pos hk, getD_zipWith_of_length_eq (· + ·) 0 c (by rw [h.2 r hk.2, hw]) (add_zero 0)]
  · rw [if_neg (by omega), if_neg hk]

theorem shape_addRow (ab : List (List Rat)) (k : Nat) (w : List Rat) (R n : Nat) (h : TblShape ab R n) (hw : w.length = n) :
    TblShape (addRow ab k w) R n := by
  refine ⟨by simp [addRow, h.1], fun r hr => ?_⟩
  unfold addRow
  rw [getD_modify]
  split
  · rw [List.length_zipWith, h.2 r hr, hw, Nat.min_self]
  · exact h.2 r hr

/-- for all three layouts: `(i, j)` is read in row `r`, column `c`, and `k` is the row that holds the main diagonal -/
theorem ent_addRow_diag (T : List (List Rat)) (k : Nat) (w : List Rat) (R n : Nat) (h : TblShape T R n) (hw : w.length = n) (hk : k < R)
    (i j r c : Nat) (hr : r = k ↔ i = j) (hc : i = j → c = i) :
    ent (addRow T k w) r c = ent T r c + delta i j (w.getD i 0) := by
  rw [ent_addRow T k w R n r c h hw, delta]
  by_cases hij : i = j
  · rw [if_pos ⟨hr.2 hij, hr.2 hij ▸ hk⟩, if_pos hij, hc hij]
  · rw [if_neg (fun h' => hij (hr.1 h'.1)), if_neg hij, add_zero]

theorem addRowC_eq_addRow {T : List (List Rat)} {R n : Nat} (h : TblShape T R n) (k : Nat) (c : Rat) :
    addRowC T k c = addRow T k (List.replicate n c) := by
  unfold addRowC addRow
  refine ext_getD [] (by rw [List.length_modify, List.length_modify]) fun r hr => ?_
  rw [List.length_modify, h.1] at hr
  rw [getD_modify, getD_modify]
  split
  · refine ext_getD 0 (by rw [List.length_map, List.length_zipWith, List.length_replicate, h.2 r hr, Nat.min_self]) fun i hi => ?_
    rw [List.length_map, h.2 r hr] at hi
    rw [getD_map_of_lt _ 0 0 (by rw [h.2 r hr]; exact hi),
      getD_zipWith_of_length_eq (· + ·) 0 i (by rw [h.2 r hr, List.length_replicate]) (add_zero 0), getD_replicate, if_pos hi]
  · rfl

theorem reverse_modify_reverse {α} (l : List α) (k : Nat) (f : α → α) (hk : k < l.length) :
    (l.reverse.modify k f).reverse = l.modify (l.length - 1 - k) f := by
  apply List.ext_getElem?
  intro i
  by_cases hi : i < l.length
  · rw [List.getElem?_reverse (by rw [List.length_modify, List.length_reverse]; exact hi), List.getElem?_modify,
      List.getElem?_modify, List.length_modify, List.length_reverse, List.getElem?_reverse (by omega),
      show l.length - 1 - (l.length - 1 - i) = i by omega]
    by_cases h : k = l.length - 1 - i
    · simp only [if_pos h, if_pos (show l.length - 1 - k = i by omega)]
    · simp only [if_neg h, if_neg (show ¬ l.length - 1 - k = i by omega)]
  · rw [List.getElem?_eq_none (by rw [List.length_reverse, List.length_modify, List.length_reverse]; omega),
      List.getElem?_eq_none (by rw [List.length_modify]; omega)]

theorem modify_mid_reverse {α} (l : List α) (d : Nat) (f : α → α) (h : l.length = 2 * d + 1) :
    (l.reverse.modify d f).reverse = l.modify d f := by
  rw [reverse_modify_reverse l d f (by omega), h]
  congr 1; omega

theorem ent_reverse (ab : List (List Rat)) (R r c : Nat) (h : ab.length = R) :
    ent ab.reverse r c = if r < R then ent ab (R - 1 - r) c else 0 := by
  unfold ent
  rw [getD_reverse, h]
  split <;> rfl

theorem shape_reverse (ab : List (List Rat)) (R n : Nat) (h : TblShape ab R n) : TblShape ab.reverse R n := by
  refine ⟨by simp [h.1], fun r hr => ?_⟩
  rw [getD_reverse, h.1, if_pos hr]
  exact h.2 _ (by omega)

theorem ent_append (a b : List (List Rat)) (r c : Nat) :
    ent (a ++ b) r c = if r < a.length then ent a r c else ent b (r - a.length) c := by
  unfold ent; rw [getD_append]; split <;> rfl

theorem ent_padLower (ab : List (List Rat)) (p n r c : Nat) : ent (padLower ab p n) r c = ent ab r c := by
  unfold padLower
  rw [ent_append]
  split
  · rfl
  · rw [ent_zero_rows, ent_oob_row _ _ _ (by omega)]

theorem ent_padFull (ab : List (List Rat)) (p n r c : Nat) :
    ent (padFull ab p n) r c = if p ≤ r then ent ab (r - p) c else 0 := by
  unfold padFull
  rw [List.append_assoc, ent_append, List.length_replicate]
  by_cases h : r < p
  · rw [if_pos h, if_neg (by omega), ent_zero_rows]
  · rw [if_neg h, if_pos (by omega), ent_append]
    split
    · rfl
    · rw [ent_zero_rows, ent_oob_row _ _ _ (by omega)]

theorem shape_append (a b : List (List Rat)) (R S n : Nat) (ha : TblShape a R n) (hb : TblShape b S n) :
    TblShape (a ++ b) (R + S) n := by
  refine ⟨by simp [ha.1, hb.1], fun r hr => ?_⟩
  rw [getD_append, ha.1]
  split
  · exact ha.2 r (by assumption)
  · exact hb.2 _ (by omega)

theorem shape_padLower (ab : List (List Rat)) (p n R : Nat) (h : TblShape ab R n) : TblShape (padLower ab p n) (R + p) n :=
  shape_append _ _ _ _ _ h (shape_zero_rows p n)

theorem shape_padFull (ab : List (List Rat)) (p n R : Nat) (h : TblShape ab R n) : TblShape (padFull ab p n) (p + R + p) n :=
  shape_append _ _ _ _ _ (shape_append _ _ _ _ _ (shape_zero_rows p n) h) (shape_zero_rows p n)

theorem shape_padFull_of (T : List (List Rat)) (u p n v : Nat) (h : TblShape T (2 * u + 1) n) (hv : u + p = v) :
    TblShape (padFull T p n) (2 * v + 1) n :=
  (shape_padFull T p n _ h).cast (by omega)

theorem getD_shiftLeftQ (s : Nat) (row : List Rat) (c : Nat) :
    (shiftLeftQ s row).getD c 0 = row.getD (c + s) 0 := by
  rw [shiftLeftQ, getD_append, List.length_drop, getD_drop, Nat.add_comm s c]
  split
  · rfl
  · rw [getD_replicate, getD_of_le 0 (by omega)]
    split <;> rfl

theorem getD_shiftRightQ (s : Nat) (row : List Rat) (c : Nat) :
    (shiftRightQ s row).getD c 0 = if c < s ∨ row.length ≤ c then 0 else row.getD (c - s) 0 :=
  getD_replicate_append_take 0 s row c

theorem length_shiftLeftQ (s : Nat) (row : List Rat) : (shiftLeftQ s row).length = row.length := by
  rw [shiftLeftQ, List.length_append, List.length_drop, List.length_replicate]; omega
theorem length_shiftRightQ (s : Nat) (row : List Rat) : (shiftRightQ s row).length = row.length := by
  rw [shiftRightQ, List.length_append, List.length_take, List.length_replicate]; omega

theorem length_shiftRows (ab : List (List Rat)) (u l : Nat) : (shiftRows ab u l).length = ab.length := by
  rw [shiftRows, List.length_map, List.length_zipIdx]

theorem getD_shiftRows (ab : List (List Rat)) (u l r : Nat) (hr : r < ab.length) :
    (shiftRows ab u l).getD r [] =
      if r < u then shiftRightQ (u - r) (ab.getD r [])
      else if ab.length - l ≤ r then shiftLeftQ (r + 1 - (ab.length - l)) (ab.getD r [])
      else ab.getD r [] := by
  rw [getD_of_lt [] (by rw [length_shiftRows]; exact hr), getD_of_lt [] hr]
  simp only [shiftRows, List.getElem_map, List.getElem_zipIdx, Nat.zero_add]

theorem shape_shiftRows (ab : List (List Rat)) (u l R n : Nat) (h : TblShape ab R n) : TblShape (shiftRows ab u l) R n := by
  refine ⟨by rw [length_shiftRows, h.1], fun r hr => ?_⟩
  rw [getD_shiftRows _ _ _ _ (by rw [h.1]; exact hr)]
  split
  · rw [length_shiftRightQ]; exact h.2 r hr
  · split
    · rw [length_shiftLeftQ]; exact h.2 r hr
    · exact h.2 r hr

/-! ### what the storage conventions read -/

theorem denLower_eq (ab : List (List Rat)) (i j : Nat) : denLower ab i j = ent ab (max i j - min i j) (min i j) := rfl
theorem denFull_eq (ab : List (List Rat)) (u i j : Nat) :
    denFull ab u i j = if j ≤ i + u ∧ u + i - j < ab.length then ent ab (u + i - j) j else 0 := rfl
theorem denRowwise_eq (ab : List (List Rat)) (u i j : Nat) :
    denRowwise ab u i j = if j ≤ i + u ∧ u + i - j < ab.length then ent ab (u + i - j) i else 0 := rfl

theorem denLower_eq_of_bands (ab : List (List Rat)) (n : Nat) (F : Nat → Nat → Rat) (hs : ∀ i j, F i j = F j i)
    (h : ∀ r c, c + r < n → ent ab r c = F (c + r) c) (i j : Nat) (hi : i < n) (hj : j < n) : denLower ab i j = F i j := by
  rw [denLower_eq]
  rcases Nat.le_total j i with hji | hij
  · rw [Nat.max_eq_left hji, Nat.min_eq_right hji, h _ _ (by omega), Nat.add_sub_cancel' hji]
  · rw [Nat.max_eq_right hij, Nat.min_eq_left hij, h _ _ (by omega), Nat.add_sub_cancel' hij, hs]

/-- rows past the end read as zero, so the guard of a reading needs no bound on the row -/
theorem ite_ent_of_lt_length (P : Prop) [Decidable P] (ab : List (List Rat)) (r c : Nat) :
    (if P ∧ r < ab.length then ent ab r c else 0) = if P then ent ab r c else 0 := by
  by_cases h : r < ab.length
  · simp only [h, and_true]
  · simp only [h, and_false, ent_oob_row _ _ _ (Nat.le_of_not_lt h), ite_self]

theorem denFull_eq_ent (ab : List (List Rat)) (u i j : Nat) :
    denFull ab u i j = if j ≤ i + u then ent ab (u + i - j) j else 0 :=
  ite_ent_of_lt_length _ ab _ _

theorem denRowwise_eq_ent (ab : List (List Rat)) (u i j : Nat) :
    denRowwise ab u i j = if j ≤ i + u then ent ab (u + i - j) i else 0 :=
  ite_ent_of_lt_length _ ab _ _

theorem denFull_scale (c : Rat) (T : List (List Rat)) (u i j : Nat) : denFull (scale c T) u i j = c * denFull T u i j := by
  rw [denFull_eq_ent, denFull_eq_ent]
  split
  · rw [ent_scale]
  · rw [mul_zero]

theorem denFull_padFull (T : List (List Rat)) (u p n v i j : Nat) (hv : u + p = v) :
    denFull (padFull T p n) v i j = denFull T u i j := by
  subst hv
  rw [denFull_eq_ent, denFull_eq_ent, ent_padFull]
  by_cases h : j ≤ i + u
  · rw [if_pos (by omega), if_pos (by omega), if_pos h]
    congr 1; omega
  · rw [if_neg h]
    split
    · rw [if_neg (by omega)]
    · rfl

theorem denFull_addB (a b : List (List Rat)) (u R n : Nat) (ha : TblShape a R n) (hb : TblShape b R n) (i j : Nat) :
    denFull (addB a b) u i j = denFull a u i j + denFull b u i j := by
  rw [denFull_eq_ent, denFull_eq_ent, denFull_eq_ent]
  split
  · rw [ent_addB a b _ n _ _ ha hb]
  · rw [add_zero]

/-- `_shift_rows` turns pentapy's row-wise storage into LAPACK's: band `d + i − j` moves from column `i` to column `j` -/
theorem denFull_shiftRows (T : List (List Rat)) (d n i j : Nat) (h : TblShape T (2 * d + 1) n) (hj : j < n) :
    denFull (shiftRows T d d) d i j = denRowwise T d i j := by
  rw [denRowwise_eq, h.1, denFull_eq, length_shiftRows, h.1]
  split
  · next hb =>
    rw [ent, ent, getD_shiftRows _ _ _ _ (by rw [h.1]; exact hb.2), h.1]
    rcases Nat.lt_trichotomy i j with hij | rfl | hij
    · rw [if_pos (by omega), getD_shiftRightQ, h.2 _ (by omega), if_neg (by omega)]
      congr 1; omega
    · rw [if_neg (by omega), if_neg (by omega)]
    · rw [if_neg (by omega), if_pos (by omega), getD_shiftLeftQ]
      congr 1; omega
  · rfl

theorem denRowwise_reverse (ab : List (List Rat)) (u i j : Nat) (h : ab.length = 2 * u + 1) :
    denRowwise ab.reverse u i j = denFull ab u j i := by
  rw [denRowwise_eq, denFull_eq, List.length_reverse, h]
  by_cases hb : j ≤ i + u ∧ i ≤ j + u
  · rw [if_pos ⟨hb.1, by omega⟩, if_pos ⟨hb.2, by omega⟩, ent_reverse _ _ _ _ h, if_pos (by omega)]
    congr 1; omega
  · rw [if_neg (by omega), if_neg (by omega)]

/-! ### the penalty bands -/

/-- the form `bandsQ` unfolds to: `specRows`, given entry by entry, cast to `Rat` -/
theorem getD_castRows (R n : Nat) (f : Nat → Nat → Int) (r : Nat) :
    ((((List.range R).map fun r => (List.range n).map fun c => f r c).map
        fun row => row.map fun (v : Int) => (v : Rat)).getD r [])
      = if r < R then (List.range n).map fun c => ((f r c : Int) : Rat) else [] := by
  rw [List.map_map, getD_range_map_if]
  split
  · exact List.map_map
  · rfl

theorem ent_castRows (R n : Nat) (f : Nat → Nat → Int) (r c : Nat) :
    ent (((List.range R).map fun r => (List.range n).map fun c => f r c).map fun row => row.map fun (v : Int) => (v : Rat)) r c
      = if r < R ∧ c < n then ((f r c : Int) : Rat) else 0 := by
  unfold ent
  rw [getD_castRows]
  by_cases hr : r < R
  · rw [if_pos hr, getD_range_map_if]
    by_cases hc : c < n
    · rw [if_pos hc, if_pos ⟨hr, hc⟩]
    · rw [if_neg hc, if_neg (fun h => hc h.2)]
  · rw [if_neg hr, if_neg (fun h => hr h.1)]; rfl

theorem shape_castRows (R n : Nat) (f : Nat → Nat → Int) :
    TblShape (((List.range R).map fun r => (List.range n).map fun c => f r c).map fun row => row.map fun (v : Int) => (v : Rat)) R n :=
  ⟨by simp, fun r hr => by rw [getD_castRows, if_pos hr]; simp⟩

theorem ent_bandsQ_lower (n d r c : Nat) :
    ent (bandsQ n d true) r c = if r ≤ d ∧ c < n then ((specLower n d r c : Int) : Rat) else 0 :=
  (ent_castRows (d + 1) n (specLower n d) r c).trans (by simp only [Nat.lt_add_one_iff])

theorem ent_bandsQ_full (n d r c : Nat) :
    ent (bandsQ n d false) r c = if r ≤ 2 * d ∧ c < n then ((specFull n d r c : Int) : Rat) else 0 :=
  (ent_castRows (2 * d + 1) n (specFull n d) r c).trans (by simp only [Nat.lt_add_one_iff])

theorem shape_bandsQ_lower (n d : Nat) : TblShape (bandsQ n d true) (d + 1) n := shape_castRows (d + 1) n (specLower n d)

theorem shape_bandsQ_full (n d : Nat) : TblShape (bandsQ n d false) (2 * d + 1) n := shape_castRows (2 * d + 1) n (specFull n d)

theorem dtdQ_symm (n d i j : Nat) : dtdQ n d i j = dtdQ n d j i := by
  unfold dtdQ; rw [DtD_symm]

theorem dtdQ_band (n d i j : Nat) (h : i + d < j ∨ j + d < i) : dtdQ n d i j = 0 := by
  unfold dtdQ; rw [DtD_band n d i j h]; rfl

theorem dtdFastQ_eq (n d i j : Nat) : dtdFastQ n d i j = dtdQ n d i j := by
  unfold dtdFastQ dtdQ
  split
  · next h => rw [dtdOff_eq_DtD, Nat.add_sub_cancel' h]
  · next h => rw [dtdOff_eq_DtD, DtD_symm, Nat.add_sub_cancel' (Nat.le_of_not_le h)]

theorem denLower_bandsQ (n d i j : Nat) (hi : i < n) (hj : j < n) :
    denLower (bandsQ n d true) i j = dtdQ n d i j := by
  refine denLower_eq_of_bands _ n (dtdQ n d) (dtdQ_symm n d) (fun r c hc => ?_) i j hi hj
  rw [ent_bandsQ_lower]
  by_cases hr : r ≤ d
  · rw [if_pos ⟨hr, by omega⟩, specLower_eq n d r c hc]; rfl
  · rw [if_neg (fun h => hr h.1), dtdQ_band n d _ c (by omega)]

theorem denFull_bandsQ (n d i j : Nat) (hi : i < n) (hj : j < n) :
    denFull (bandsQ n d false) d i j = dtdQ n d i j := by
  rw [denFull_eq_ent, ent_bandsQ_full]
  by_cases hb : j ≤ i + d ∧ i ≤ j + d
  · rw [if_pos hb.1, if_pos ⟨by omega, hj⟩, specFull_eq n d _ i j (by omega) hi]; rfl
  · rw [dtdQ_band n d i j (by omega)]
    split
    · exact if_neg (by omega)
    · rfl

theorem Whittaker.sumL_eq_sum (l : List Rat) : sumL l = l.sum := by
  rw [sumL, foldl_add_eq_sum, zero_add]

theorem sumL_range_eq_finset (n : Nat) (f : Nat → Rat) : sumL ((List.range n).map f) = ∑ i ∈ Finset.range n, f i :=
  foldl_add_range n f

theorem sumL_range2_eq_finset (N : Nat) (f : Nat → Nat → Rat) :
    sumL ((List.range N).map fun k => sumL ((List.range N).map fun l => f k l)) = ∑ k ∈ Finset.range N, ∑ l ∈ Finset.range N, f k l := by
  rw [sumL_range_eq_finset]
  exact Finset.sum_congr rfl fun k _ => sumL_range_eq_finset N _

end PbVerif.Lemmas
