import PbVerif.Lemmas.BandTable
import Mathlib.Algebra.BigOperators.Ring.Finset
/-! Lemmas for C06 (2-D): the Kronecker-sum penalty acting on the row-major vec, over any commutative ring,
and the documented 2-D system `doc2d` as an instance. -/
namespace PbVerif.Lemmas
open PbVerif.Banded PbVerif.Whittaker Finset

section generic
variable {α : Type} [CommRing α]

/-- `Whittaker.kronE` (the entries of `scipy.sparse.kron`) over any commutative ring -/
def kronG (A B : Nat → Nat → α) (n a b : Nat) : α := A (a / n) (b / n) * B (a % n) (b % n)
def idG (i j : Nat) : α := if i = j then 1 else 0

/-- `(A ⊗ B) vec(V) = vec(A V Bᵀ)`, entry `(i, j)` -/
theorem kronG_mulVec (M N : Nat) (A B V : Nat → Nat → α) (i j : Nat) (hj : j < N) :
    ∑ b ∈ range (M * N), kronG A B N (i * N + j) b * V (b / N) (b % N)
      = ∑ i' ∈ range M, ∑ j' ∈ range N, A i i' * B j j' * V i' j' := by
  rw [sum_range_mul]
  obtain ⟨e1, e2⟩ := divmod_pair N i j hj
  refine sum_congr rfl fun i' _ => sum_congr rfl fun j' hj' => ?_
  obtain ⟨f1, f2⟩ := divmod_pair N i' j' (mem_range.mp hj')
  rw [kronG, e1, e2, f1, f2]

theorem kronG_id_mulVec (M N : Nat) (A V : Nat → Nat → α) (i j : Nat) (hj : j < N) :
    ∑ b ∈ range (M * N), kronG A idG N (i * N + j) b * V (b / N) (b % N) = ∑ i' ∈ range M, A i i' * V i' j := by
  rw [kronG_mulVec M N A idG V i j hj]
  refine sum_congr rfl fun i' _ => ?_
  simp only [idG, mul_ite, ite_mul, mul_one, mul_zero, zero_mul]
  rw [sum_ite_eq, if_pos (mem_range.mpr hj)]

theorem id_kronG_mulVec (M N : Nat) (B V : Nat → Nat → α) (i j : Nat) (hi : i < M) (hj : j < N) :
    ∑ b ∈ range (M * N), kronG idG B N (i * N + j) b * V (b / N) (b % N) = ∑ j' ∈ range N, V i j' * B j j' := by
  rw [kronG_mulVec M N idG B V i j hj]
  simp only [idG, ite_mul, one_mul, zero_mul, sum_ite_irrel, sum_const_zero]
  rw [sum_ite_eq, if_pos (mem_range.mpr hi)]
  exact sum_congr rfl fun _ _ => mul_comm _ _

theorem kron_penalty_vec_G (M N : Nat) (lr lc : α) (Pr Pc V : Nat → Nat → α) (i j : Nat) (hi : i < M) (hj : j < N) :
    ∑ b ∈ range (M * N), (kronG (fun p q => lr * Pr p q) idG N (i * N + j) b + kronG idG (fun p q => lc * Pc p q) N (i * N + j) b)
        * V (b / N) (b % N)
      = lr * ∑ i' ∈ range M, Pr i i' * V i' j + lc * ∑ j' ∈ range N, V i j' * Pc j j' := by
  rw [sum_congr rfl fun b _ => add_mul _ _ _, sum_add_distrib, kronG_id_mulVec M N _ V i j hj, id_kronG_mulVec M N _ V i j hi hj,
    mul_sum, mul_sum]
  exact congrArg₂ _ (sum_congr rfl fun _ _ => mul_assoc _ _ _) (sum_congr rfl fun _ _ => mul_left_comm _ _ _)

end generic

/-! ### the `Rat` / list-sum instance the certificate evaluates -/

theorem doc2d_eq_kron (m n dr dc : Nat) (lamr lamc : Rat) (w : List Rat) (a b : Nat) :
    doc2d m n dr dc lamr lamc w a b = delta a b (w.getD a 0) + pen2d m n dr dc lamr lamc a b := by
  -- a factor `I[p,q]` of a Kronecker entry is the guard `if p = q` of `doc2d`
  unfold doc2d pen2d kronE idE
  simp only [mul_ite, ite_mul, mul_one, one_mul, mul_zero, zero_mul, add_assoc]

theorem pen2d_eq_kron_DtD (m n dr dc : Nat) (lamr lamc : Rat) (a b : Nat) :
    pen2d m n dr dc lamr lamc a b
      = kronG (fun p q => lamr * dtdQ m dr p q) idG n a b + kronG idG (fun p q => lamc * dtdQ n dc p q) n a b := by
  unfold pen2d kronE kronG idE idG
  beta_reduce
  rw [dtdFastQ_eq, dtdFastQ_eq]

end PbVerif.Lemmas
