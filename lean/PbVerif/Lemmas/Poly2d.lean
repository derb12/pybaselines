import PbVerif.Lemmas.Poly
import PbVerif.Model.Poly2d
/-! The 2-D `max_cross` option (C08). Column `idx` of the flattened `polyvander2d` matrix holds `x^(idx / (b+1)) z^(idx % (b+1))`,
which is also the order in which `itertools.product` meets the exponent pairs; the loop's test is the complement of the documented
set `allowed`, and that set is downward closed. Hence a row of the zeroed matrix times any coefficient vector is `polyval2d` of
the masked coefficient matrix, and `T_x C T_z'` with upper-triangular transforms keeps the excluded entries at zero. -/
namespace PbVerif.Lemmas
open PbVerif.Poly PbVerif.Poly2d

theorem productPairs_eq (a b : Nat) :
    productPairs a b = (List.range ((a + 1) * (b + 1))).map fun idx => (idx / (b + 1), idx % (b + 1)) := by
  unfold productPairs
  -- any number of rows of any positive width, so that the induction starts from no rows
  generalize a + 1 = n
  have hm : 0 < b + 1 := Nat.succ_pos b
  generalize b + 1 = m at hm ⊢
  induction n with
  | zero => simp
  | succ n ih =>
    rw [List.range_succ, List.flatMap_append, ih, Nat.succ_mul, List.range_add, List.map_append, List.map_map,
      List.flatMap_singleton]
    refine congrArg _ (List.map_congr_left fun j hj => ?_)
    obtain ⟨hd, hr⟩ := divmod_pair m n j (List.mem_range.1 hj)
    rw [Function.comp, hd, hr]

theorem productPairs_length (a b : Nat) : (productPairs a b).length = (a + 1) * (b + 1) := by
  rw [productPairs_eq, List.length_map, List.length_range]

theorem keptCols_length (a b : Nat) (mc : Option Nat) : (keptCols a b mc).length = (a + 1) * (b + 1) := by
  cases mc <;> simp only [keptCols, List.length_map, productPairs_length]

theorem keptCols_eq (a b : Nat) (mc : Option Nat) :
    keptCols a b mc = (List.range ((a + 1) * (b + 1))).map (keptCol a b mc) := by
  cases mc <;> (simp only [keptCols, productPairs_eq, List.map_map]; rfl)

theorem colIndex_lt (a b i j : Nat) (hi : i ≤ a) (hj : j ≤ b) : colIndex a b i j < (a + 1) * (b + 1) :=
  pair_lt (a + 1) (b + 1) i j (Nat.lt_succ_of_le hi) (Nat.lt_succ_of_le hj)

theorem colIndex_div (a b i j : Nat) (hj : j ≤ b) : colIndex a b i j / (b + 1) = i :=
  (divmod_pair (b + 1) i j (Nat.lt_succ_of_le hj)).1

theorem colIndex_mod (a b i j : Nat) (hj : j ≤ b) : colIndex a b i j % (b + 1) = j :=
  (divmod_pair (b + 1) i j (Nat.lt_succ_of_le hj)).2

theorem div_le_of_lt_mul (a b idx : Nat) (h : idx < (a + 1) * (b + 1)) : idx / (b + 1) ≤ a :=
  Nat.le_of_lt_succ ((Nat.div_lt_iff_lt_mul (Nat.succ_pos b)).2 h)

theorem colIndex_divmod (a b idx : Nat) : colIndex a b (idx / (b + 1)) (idx % (b + 1)) = idx := by
  unfold colIndex
  rw [Nat.mul_comm]; exact Nat.div_add_mod idx (b + 1)

theorem allowed_iff (m i j : Nat) : allowed (some m) i j = true ↔ i = 0 ∨ j = 0 ∨ (i ≤ m ∧ j ≤ m) := by
  simp [allowed, or_assoc]

theorem zeroedVal_eq (m i j : Nat) : zeroedVal m (i, j) = !(allowed (some m) i j) := by
  -- De Morgan on the loop test `0 not in val and any(v > m for v in val)`
  rw [Bool.eq_iff_iff]
  simp [zeroedVal, allowed]
  omega

theorem keptCol_eq_allowed (a b : Nat) (mc : Option Nat) (idx : Nat) :
    keptCol a b mc idx = allowed mc (idx / (b + 1)) (idx % (b + 1)) := by
  cases mc with
  | none => rfl
  | some m => simp only [keptCol, zeroedVal_eq, Bool.not_not]

theorem keptCols_getD (a b : Nat) (mc : Option Nat) (idx : Nat) (d : Bool) (h : idx < (a + 1) * (b + 1)) :
    (keptCols a b mc).getD idx d = allowed mc (idx / (b + 1)) (idx % (b + 1)) := by
  rw [keptCols_eq, getD_range_map _ _ h, keptCol_eq_allowed]

theorem allowed_down (mc : Option Nat) (i j k l : Nat) (h : allowed mc i j = true) (hk : k ≤ i) (hl : l ≤ j) :
    allowed mc k l = true := by
  cases mc with
  | none => rfl
  | some m =>
    rw [allowed_iff] at h ⊢
    omega

/-- the loop changes nothing iff the corner monomial `x^a z^b` is allowed: the set is downward closed -/
theorem keptCols_some_eq_none_iff (a b m : Nat) :
    keptCols a b (some m) = keptCols a b none ↔ a = 0 ∨ b = 0 ∨ max a b ≤ m := by
  rw [Nat.max_le, ← allowed_iff, keptCols_eq, keptCols_eq, List.map_inj_left]
  simp only [keptCol_eq_allowed, List.mem_range]
  constructor
  · intro h
    have := h _ (colIndex_lt a b a b (Nat.le_refl a) (Nat.le_refl b))
    rwa [colIndex_div a b a b (Nat.le_refl b), colIndex_mod a b a b (Nat.le_refl b)] at this
  · intro h idx hidx
    exact allowed_down _ _ _ _ _ h (div_le_of_lt_mul a b idx hidx)
      (Nat.le_of_lt_succ (Nat.mod_lt idx (Nat.succ_pos b)))

theorem dot_eq (r c : List Rat) : dot r c = ∑ k ∈ Finset.range r.length, r.getD k 0 * c.getD k 0 :=
  sumL_range_map _ _

theorem range_map_rect {α : Type} (n m : Nat) (f : Nat → Nat → α) :
    ∀ row ∈ (List.range n).map fun i => (List.range m).map (f i), row.length = m := by
  intro row h
  obtain ⟨i, _, rfl⟩ := List.mem_map.1 h
  rw [List.length_map, List.length_range]

theorem reshapeCoef_length (a b : Nat) (coef : List Rat) : (reshapeCoef a b coef).length = a + 1 := by
  simp [reshapeCoef]

theorem reshapeCoef_row (a b : Nat) (coef : List Rat) (i : Nat) (hi : i < a + 1) :
    (reshapeCoef a b coef).getD i [] = (List.range (b + 1)).map fun (j : Nat) => coef.getD (colIndex a b i j) 0 := by
  unfold reshapeCoef
  rw [getD_range_map _ _ hi]

theorem maskCoef_length (mc : Option Nat) (c : List (List Rat)) : (maskCoef mc c).length = c.length := by
  simp [maskCoef]

theorem maskCoef_row (mc : Option Nat) (c : List (List Rat)) (i : Nat) (hi : i < c.length) :
    (maskCoef mc c).getD i [] = (List.range (c.getD i []).length).map fun (j : Nat) =>
      if allowed mc i j then (c.getD i []).getD j 0 else 0 := by
  unfold maskCoef
  rw [getD_range_map _ _ hi]

theorem maskCoef_entry (mc : Option Nat) (c : List (List Rat)) (i j : Nat) (hi : i < c.length)
    (hj : j < (c.getD i []).length) :
    ((maskCoef mc c).getD i []).getD j 0 = if allowed mc i j then (c.getD i []).getD j 0 else 0 := by
  rw [maskCoef_row mc c i hi, getD_range_map _ _ hj]

theorem maskCoef_allowed (mc : Option Nat) (c : List (List Rat)) (i j : Nat) (hi : i < c.length)
    (hj : j < (c.getD i []).length) (h : allowed mc i j = true) :
    ((maskCoef mc c).getD i []).getD j 0 = (c.getD i []).getD j 0 := by
  rw [maskCoef_entry mc c i j hi hj, h]; rfl

theorem maskCoef_none (c : List (List Rat)) : maskCoef none c = c := by
  simp only [maskCoef, allowed, if_true, map_getD_range]

theorem maskCoef_reshapeCoef (a b : Nat) (mc : Option Nat) (coef : List Rat) :
    maskCoef mc (reshapeCoef a b coef) = (List.range (a + 1)).map fun i => (List.range (b + 1)).map fun j =>
      if allowed mc i j then coef.getD (colIndex a b i j) 0 else 0 := by
  unfold maskCoef
  rw [reshapeCoef_length]
  refine List.map_congr_left fun i hi => ?_
  rw [reshapeCoef_row a b coef i (List.mem_range.1 hi), List.length_map, List.length_range]
  exact List.map_congr_left fun j hj => by rw [getD_range_map _ _ (List.mem_range.1 hj)]

theorem vander_masked_apply (a b : Nat) (mc : Option Nat) (coef : List Rat) (x z : Rat) :
    dot (vanderRowMasked a b mc x z) coef = evalPoly2 (maskCoef mc (reshapeCoef a b coef)) x z := by
  have hlen : (vanderRowMasked a b mc x z).length = (a + 1) * (b + 1) := by simp [vanderRowMasked]
  rw [maskCoef_reshapeCoef, evalPoly2_range_map, dot_eq, hlen, sum_range_mul]
  refine Finset.sum_congr rfl fun i hi => ?_
  rw [Finset.sum_mul]
  refine Finset.sum_congr rfl fun j hj => ?_
  rw [Finset.mem_range, Nat.lt_succ_iff] at hi hj
  have hlt : i * (b + 1) + j < (a + 1) * (b + 1) := colIndex_lt a b i j hi hj
  have hd : (i * (b + 1) + j) / (b + 1) = i := colIndex_div a b i j hj
  have hm : (i * (b + 1) + j) % (b + 1) = j := colIndex_mod a b i j hj
  unfold vanderRowMasked colIndex
  rw [getD_range_map _ _ hlt, keptCols_getD a b mc _ true hlt, hd, hm]
  split <;> ring

theorem vanderRowMasked_none (a b : Nat) (x z : Rat) : vanderRowMasked a b none x z = vanderRow a b x z := by
  unfold vanderRow vanderRowMasked
  refine List.map_congr_left fun idx hidx => ?_
  rw [keptCols_getD a b none idx true (List.mem_range.1 hidx)]; rfl

theorem convertCoef2d_entry (c : List (List Rat)) (ox sx oz sz : Rat) (i j : Nat) (hi : i < c.length)
    (hj : j < (c.getD 0 []).length) :
    ((convertCoef2d c ox sx oz sz).getD i []).getD j 0 =
      ∑ k ∈ Finset.range c.length, ∑ l ∈ Finset.range (c.getD 0 []).length,
        polyTransformAt ox sx i k * (c.getD k []).getD l 0 * polyTransformAt oz sz j l := by
  rw [convertCoef2d_row c ox sx oz sz i hi, getD_range_map _ _ hj]

/-- `T_x C T_z'` with `T_x`, `T_z` upper triangular: a term that they leave has `i ≤ k` and `j ≤ l`, and then `(k, l)`
lies outside the downward-closed `S` with `(i, j)` -/
theorem sum_triangular_eq_zero (S : Nat → Nat → Bool)
    (hS : ∀ i j k l, S i j = true → k ≤ i → l ≤ j → S k l = true)
    (Tx Tz : Nat → Nat → Rat) (hx : ∀ i k, k < i → Tx i k = 0) (hz : ∀ j l, l < j → Tz j l = 0)
    (n m : Nat) (f : Nat → Nat → Rat) (hf : ∀ k l, k < n → l < m → S k l = false → f k l = 0)
    (i j : Nat) (hij : S i j = false) :
    ∑ k ∈ Finset.range n, ∑ l ∈ Finset.range m, Tx i k * f k l * Tz j l = 0 := by
  refine Finset.sum_eq_zero fun k hk => Finset.sum_eq_zero fun l hl => ?_
  by_cases hik : k < i
  · rw [hx i k hik, zero_mul, zero_mul]
  by_cases hjl : l < j
  · rw [hz j l hjl, mul_zero]
  rw [hf k l (Finset.mem_range.1 hk) (Finset.mem_range.1 hl), mul_zero, zero_mul]
  exact Bool.eq_false_iff.2 fun h => Bool.eq_false_iff.1 hij (hS k l i j h (by omega) (by omega))

theorem convertCoef2d_excluded (mc : Option Nat) (c : List (List Rat)) (ox sx oz sz : Rat)
    (hex : ∀ k l, k < c.length → l < (c.getD 0 []).length → allowed mc k l = false → (c.getD k []).getD l 0 = 0)
    (i j : Nat) (hi : i < c.length) (hj : j < (c.getD 0 []).length) (hij : allowed mc i j = false) :
    ((convertCoef2d c ox sx oz sz).getD i []).getD j 0 = 0 := by
  rw [convertCoef2d_entry c ox sx oz sz i j hi hj]
  exact sum_triangular_eq_zero (allowed mc) (allowed_down mc) _ _
    (polyTransformAt_zero_of_lt ox sx) (polyTransformAt_zero_of_lt oz sz) _ _ _ hex i j hij

end PbVerif.Lemmas
