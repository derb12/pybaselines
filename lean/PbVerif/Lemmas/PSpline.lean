import PbVerif.Lemmas.BSpline
import PbVerif.Lemmas.Whittaker
/-! The P-spline systems (C07): `B'WB` as the scatter loop of `_numba_btb_bty` leaves it, the padded penalty, and the arrays that
`pspline_asls` & co., `pspline_iasls`, `pspline_drpls`, `pspline_aspls` hand to the solver, each as a band array that stores the
documented matrix. -/
namespace PbVerif.Lemmas
open PbVerif.BSpline PbVerif.Whittaker PbVerif.PSpline

def RowsLen (a : List (List Rat)) (n : Nat) : Prop := ∀ r ∈ a, r.length = n

theorem btwbAt_symm (deg : Nat) (rows : List Row) (ws : List Rat) (i j : Nat) : btwbAt deg rows ws i j = btwbAt deg rows ws j i := by
  unfold btwbAt
  congr 1
  exact List.map_congr_left fun p _ => by ring

theorem btbSpec_eq (deg : Nat) (rows : List Row) (ws : List Rat) (r c : Nat) : btbSpec deg rows ws r c = btwbAt deg rows ws (c + r) c :=
  (Whittaker.sumL_eq_sum _).symm

theorem btbSpec_dense (deg : Nat) (rows : List Row) (ws : List Rat) (i j : Nat) :
    btbSpec deg rows ws (max i j - min i j) (min i j) = btwbAt deg rows ws i j := by
  rw [btbSpec_eq]
  rcases Nat.le_total j i with h | h
  · rw [Nat.max_eq_left h, Nat.min_eq_right h, Nat.add_sub_cancel' h]
  · rw [Nat.max_eq_right h, Nat.min_eq_left h, Nat.add_sub_cancel' h, btwbAt_symm]

theorem btbSpec_band (deg : Nat) (rows : List Row) (ws : List Rat) (r c : Nat) (hr : deg < r) :
    btbSpec deg rows ws r c = 0 := by
  unfold btbSpec
  refine List.sum_eq_zero (List.forall_mem_map.2 ?_)
  rintro ⟨row, w⟩ _
  show w * row.at deg (c + r) * row.at deg c = 0
  unfold Row.at
  by_cases h1 : row.left ≤ c + deg ∧ c ≤ row.left
  · rw [if_neg (show ¬ (row.left ≤ c + r + deg ∧ c + r ≤ row.left) by omega), mul_zero, zero_mul]
  · rw [if_neg h1, mul_zero]

theorem lowerBand_btb (deg nb : Nat) (rows : List Row) (ys ws : List Rat) (h : RowsWf deg nb rows)
    (hy : ys.length = rows.length) (hw : ws.length = rows.length) :
    LowerBand (btbBty deg nb rows ys ws).1 (deg + 1) nb (btwbAt deg rows ws) := by
  have hs : TblShape (btbBty deg nb rows ys ws).1 (deg + 1) nb := btbBty_shape deg nb rows ys ws
  refine ⟨hs, denLower_eq_of_bands _ nb _ (btwbAt_symm deg rows ws) fun r c hc => ?_⟩
  rw [← btbSpec_eq]
  by_cases hr : r ≤ deg
  · exact btb_eq deg nb rows ys ws h hy hw r c hr hc
  · rw [ent_oob_row _ _ _ (by rw [hs.1]; omega), btbSpec_band deg rows ws _ _ (by omega)]

theorem lowerBand_asmPspline (deg nb d : Nat) (lam : Rat) (rows : List Row) (ys ws : List Rat) (h : RowsWf deg nb rows)
    (hy : ys.length = rows.length) (hw : ws.length = rows.length) :
    LowerBand (asmPspline deg nb d lam rows ys ws).1 (max (deg + 1) (d + 1)) nb
      fun i j => btwbAt deg rows ws i j + lam * dtdQ nb d i j :=
  (lowerBand_btb deg nb rows ys ws h hy hw).addDiagonals ((lowerBand_bandsQ nb d).scale lam)

theorem pspline_asm_den (deg nb d : Nat) (lam : Rat) (rows : List Row) (ys ws : List Rat) (h : RowsWf deg nb rows)
    (hy : ys.length = rows.length) (hw : ws.length = rows.length) (i j : Nat) (hi : i < nb) (hj : j < nb) :
    denLower (asmPspline deg nb d lam rows ys ws).1 i j = docPspline deg nb d lam rows ws i j := by
  rw [(lowerBand_asmPspline deg nb d lam rows ys ws h hy hw).den i j hi hj, docPspline, btbSpec_dense]

/-! ### full storage (`PSpline.lower = False`) -/

theorem fullBand_penFullP (nb d deg : Nat) (lam : Rat) :
    FullBand (penFullP nb d deg lam false) (d + (deg - d)) nb fun i j => lam * dtdQ nb d i j :=
  ((fullBand_bandsQ nb d).pad (deg - d) rfl).scale lam

theorem penFullP_true (nb d deg : Nat) (lam : Rat) : penFullP nb d deg lam true = (penFullP nb d deg lam false).reverse := by
  show scale lam (padFull (bandsQ nb d false).reverse (deg - d) nb) = (scale lam (padFull (bandsQ nb d false) (deg - d) nb)).reverse
  rw [← scale_reverse]
  simp only [padFull, List.reverse_append, List.reverse_replicate, List.append_assoc]

theorem fullBand_btb (deg nb : Nat) (rows : List Row) (ys ws : List Rat) (h : RowsWf deg nb rows)
    (hy : ys.length = rows.length) (hw : ws.length = rows.length) :
    FullBand (lowerToFullQ (btbBty deg nb rows ys ws).1) deg nb (btwbAt deg rows ws) :=
  .ofLower (lowerBand_btb deg nb rows ys ws h hy hw) rfl

/-- `pspline_drpls` demands `diff_order ≥ 2`; `1 ≤ d` suffices here -/
theorem fullBand_asmPDrpls (deg nb d : Nat) (lam eta : Rat) (rows : List Row) (ys ws wt : List Rat) (h : RowsWf deg nb rows)
    (hy : ys.length = rows.length) (hw : ws.length = rows.length) (hwt : wt.length = nb) (hd : 1 ≤ d) :
    FullBand (asmPDrpls deg nb d lam eta rows ys ws wt).1 (d + (deg - d)) nb (docPDrpls deg nb d lam eta rows ws wt) := by
  have P := fullBand_penFullP nb d deg lam
  have dw := (P.scale (-eta)).shiftRevColScale hwt
  rw [← scale_reverse] at dw
  exact ((fullBand_btb deg nb rows ys ws h hy hw).addDiagonals
    ((P.addDiagonals (fullBand_bandsQ nb 1) (Nat.max_eq_left (by omega))).addDiagonals dw (Nat.max_self _))
    (Nat.max_eq_right (by omega))).congr fun i j _ _ => by
      rw [dtdQ_symm nb d j i]; unfold docPDrpls; ring

theorem fullBand_asmPAspls (deg nb d : Nat) (lam : Rat) (rows : List Row) (ys ws at_ : List Rat) (h : RowsWf deg nb rows)
    (hy : ys.length = rows.length) (hw : ws.length = rows.length) (hat : at_.length = nb) :
    FullBand (asmPAspls deg nb d lam rows ys ws at_).1 (d + (deg - d)) nb (docPAspls deg nb d lam rows ws at_) := by
  have dw := (fullBand_penFullP nb d deg lam).shiftRevColScale hat
  rw [← penFullP_true] at dw
  exact ((fullBand_btb deg nb rows ys ws h hy hw).addDiagonals dw (Nat.max_eq_right (by omega))).congr fun i j _ _ => by
    rw [dtdQ_symm nb d j i]; unfold docPAspls; ring

/-! ### `pspline_iasls`: the first-order penalty on the data grid, seen from the coefficients -/
open Finset

theorem sumL_zipWith_mul (a b : List Rat) (N : Nat) (ha : a.length = N) (hb : b.length = N) :
    sumL (List.zipWith (· * ·) a b) = ∑ k ∈ range N, a.getD k 0 * b.getD k 0 :=
  foldl_add_zipWith_mul a b N ha hb

theorem length_d1y (y : List Rat) : (d1y y).length = y.length := by
  simp only [d1y, List.length_map, List.length_range]
theorem length_colB (deg : Nat) (rows : List Row) (c : Nat) : (colB deg rows c).length = rows.length := by simp [colB]

/-- `d1y b` is `D₁'D₁ b` (`iasls_rhs`), so `a · (λ₁ d1y b) = λ₁ Σ_k Σ_l a_k (D₁'D₁)[k,l] b_l`, the double sum in the form of
`btd1bAt` and `btd1yAt` -/
theorem sum_mul_d1y (a b : List Rat) (lam1 : Rat) (N : Nat) (ha : a.length = N) (hb : b.length = N) (hN : 2 ≤ N) :
    sumL (List.zipWith (· * ·) a ((d1y b).map (lam1 * ·)))
      = lam1 * sumL ((List.range N).map fun k => sumL ((List.range N).map fun l => a.getD k 0 * dtdQ N 1 k l * b.getD l 0)) := by
  rw [sumL_zipWith_mul _ _ N ha (by rw [List.length_map, length_d1y, hb]), sumL_range_eq_finset, mul_sum]
  apply sum_congr rfl
  intro k hk
  rw [getD_map (lam1 * ·) k (mul_zero _), iasls_rhs b (by omega) k (by rw [hb]; exact mem_range.mp hk), hb,
    sumL_range_eq_finset, sumL_range_eq_finset, mul_sum, mul_sum, mul_sum]
  apply sum_congr rfl
  intro l _
  ring

theorem btd1bAt_symm (deg : Nat) (rows : List Row) (i j : Nat) : btd1bAt deg rows i j = btd1bAt deg rows j i := by
  rw [btd1bAt, btd1bAt, sumL_range2_eq_finset, sumL_range2_eq_finset, sum_comm]
  apply sum_congr rfl; intro k _; apply sum_congr rfl; intro l _
  rw [dtdQ_symm rows.length 1 l k]; ring

theorem shape_d1Band (deg nb : Nat) (lam1 : Rat) (rows : List Row) : TblShape (d1Band deg nb lam1 rows) nb nb := by
  refine ⟨by simp only [d1Band, List.length_map, List.length_range], fun r hr => ?_⟩
  unfold d1Band
  rw [getD_range_map _ [] hr, List.length_map, List.length_range]

theorem ent_d1Band (deg nb : Nat) (lam1 : Rat) (rows : List Row) (r c : Nat) (hc : c + r < nb) :
    ent (d1Band deg nb lam1 rows) r c
      = sumL (List.zipWith (· * ·) (colB deg rows (c + r)) ((d1y (colB deg rows c)).map (lam1 * ·))) := by
  unfold ent d1Band
  rw [getD_range_map _ [] (by omega), getD_range_map _ 0 (by omega), getD_range_map _ [] hc,
    getD_map (fun v => (d1y v).map (lam1 * ·)) (d := []) c (by simp [d1y]), getD_range_map _ [] (by omega)]

theorem lowerBand_d1Band (deg nb : Nat) (lam1 : Rat) (rows : List Row) (hN : 2 ≤ rows.length) :
    LowerBand (d1Band deg nb lam1 rows) nb nb fun i j => lam1 * btd1bAt deg rows i j := by
  refine ⟨shape_d1Band deg nb lam1 rows, denLower_eq_of_bands _ nb _ (fun i j => ?_) fun r c hc => ?_⟩
  · rw [btd1bAt_symm]
  · rw [ent_d1Band deg nb lam1 rows r c hc, sum_mul_d1y _ _ lam1 rows.length (length_colB _ _ _) (length_colB _ _ _) hN]
    rfl

/-- lower bands (`banded_solver` 1–3) -/
theorem lowerBand_asmPIasls (deg nb d : Nat) (lam lam1 : Rat) (rows : List Row) (ys ws : List Rat) (h : RowsWf deg nb rows)
    (hy : ys.length = rows.length) (hw : ws.length = rows.length) (hN : 2 ≤ rows.length) :
    LowerBand (asmPIasls deg nb d lam lam1 rows ys ws true).1 (max (deg + 1) (max (d + 1 + (deg - d)) nb)) nb
      (docPIasls deg nb d lam lam1 rows ws) :=
  ((lowerBand_btb deg nb rows ys _ h hy (by rw [List.length_map, hw])).addDiagonals
    ((((lowerBand_bandsQ nb d).padLower (deg - d) rfl).scale lam).addDiagonals (lowerBand_d1Band deg nb lam1 rows hN))).congr
    fun i j _ _ => by unfold docPIasls; ring

/-- full bands (`banded_solver = 4`) -/
theorem fullBand_asmPIasls (deg nb d : Nat) (lam lam1 : Rat) (rows : List Row) (ys ws : List Rat) (h : RowsWf deg nb rows)
    (hy : ys.length = rows.length) (hw : ws.length = rows.length) (hN : 2 ≤ rows.length) (hdeg : deg < nb) (hd : d < nb) :
    FullBand (asmPIasls deg nb d lam lam1 rows ys ws false).1 (nb - 1) nb (docPIasls deg nb d lam lam1 rows ws) :=
  ((fullBand_btb deg nb rows ys _ h hy (by rw [List.length_map, hw])).addDiagonals
    ((fullBand_penFullP nb d deg lam).addDiagonals (.ofLower (lowerBand_d1Band deg nb lam1 rows hN) (by omega)) (Nat.max_eq_right (by omega)))
    (Nat.max_eq_right (by omega))).congr fun i j _ _ => by unfold docPIasls; ring

end PbVerif.Lemmas
