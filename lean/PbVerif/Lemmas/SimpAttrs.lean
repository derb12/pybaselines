import Lean.Meta.Tactic.Simp.RegisterCommand
/-! Simp sets of the proof modules (an attribute cannot be used in the module that declares it). -/

/-- Turns `∀ i ∈ trace, P i`, for an access trace built from `++`, `::`, `map`, `flatMap` over `List.range` and `if`, into one
arithmetic statement per access, under the bounds of its loop variables and its guards. Tagged in `Lemmas/ListAux`. -/
register_simp_attr forall_trace

/-- Evaluation of a translated weight expression (`WExpr.eval`) down to field operations, in normal form modulo
associativity and commutativity. Tagged in `Lemmas/WExpr`. -/
register_simp_attr wexpr
