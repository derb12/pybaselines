import PbVerif.Lemmas.SimpAttrs
/-! List plumbing shared by the proof modules. The models read arrays with `l.getD i d` (NumPy reads, totalised), tables of
rows with `ent`, and sum with `foldl (· + ·) 0`; these are the equations every proof about them starts from: `getD` through the
list operations, sorted and duplicate-free lists read by position, row-major index arithmetic, fold invariants, and the
`forall_trace` simp set for bounds of index traces. Core Lean only, so that Mathlib-free proof modules can use them. -/
namespace PbVerif.Lemmas

variable {α β γ : Type _}

/-! ### reading with `getD` -/

theorem getD_of_lt {l : List α} {i : Nat} (d : α) (h : i < l.length) : l.getD i d = l[i] := by
  simp [List.getD_eq_getElem?_getD, h]

theorem getD_of_le {l : List α} {i : Nat} (d : α) (h : l.length ≤ i) : l.getD i d = d := by
  simp [List.getD_eq_getElem?_getD, h]

theorem getD_mem {l : List α} {i : Nat} (d : α) (h : i < l.length) : l.getD i d ∈ l := by
  rw [getD_of_lt d h]; exact List.getElem_mem h

theorem headD_eq_getD (l : List α) (d : α) : l.headD d = l.getD 0 d := by cases l <;> rfl

theorem getLastD_eq_getD (l : List α) (d : α) : l.getLastD d = l.getD (l.length - 1) d := by
  rw [List.getLastD_eq_getLast?, List.getLast?_eq_getElem?, List.getD_eq_getElem?_getD]

theorem ext_getD {l₁ l₂ : List α} (d : α) (hl : l₁.length = l₂.length)
    (h : ∀ i, i < l₁.length → l₁.getD i d = l₂.getD i d) : l₁ = l₂ := by
  refine List.ext_getElem hl fun i h₁ h₂ => ?_
  rw [← getD_of_lt d h₁, ← getD_of_lt d h₂]; exact h i h₁

/-! ### `getD` through the list operations -/

theorem getD_range {n i : Nat} (d : Nat) (h : i < n) : (List.range n).getD i d = i := by
  rw [getD_of_lt d (by rwa [List.length_range]), List.getElem_range]

theorem getD_zipIdx (l : List α) (d : α) (i : Nat) (h : i < l.length) : l.zipIdx.getD i (d, 0) = (l.getD i d, i) := by
  rw [getD_of_lt (d, 0) (by rw [List.length_zipIdx]; exact h), List.getElem_zipIdx, Nat.zero_add, getD_of_lt d h]

theorem getD_map {l : List α} (f : α → β) {d : α} {e : β} (i : Nat) (h : f d = e) :
    (l.map f).getD i e = f (l.getD i d) := by
  simp only [List.getD_eq_getElem?_getD, List.getElem?_map]
  cases l[i]? <;> simp [h]

theorem getD_map_of_lt {l : List α} (f : α → β) (d : α) (e : β) {i : Nat} (h : i < l.length) :
    (l.map f).getD i e = f (l.getD i d) := by
  simp [List.getD_eq_getElem?_getD, h]

theorem getD_range_map (f : Nat → α) (d : α) {n i : Nat} (h : i < n) :
    ((List.range n).map f).getD i d = f i := by
  simp [List.getD_eq_getElem?_getD, h]

theorem getD_range_map_if (f : Nat → α) (d : α) (n i : Nat) :
    ((List.range n).map f).getD i d = if i < n then f i else d := by
  split
  · next h => exact getD_range_map f d h
  · next h => exact getD_of_le d (by simpa using h)

theorem map_getD_range (l : List α) (d : α) : (List.range l.length).map (l.getD · d) = l :=
  ext_getD d (by rw [List.length_map, List.length_range]) fun i h => by
    rw [List.length_map, List.length_range] at h
    exact getD_range_map _ d h

theorem getD_append (a b : List α) (d : α) (i : Nat) :
    (a ++ b).getD i d = if i < a.length then a.getD i d else b.getD (i - a.length) d := by
  simp only [List.getD_eq_getElem?_getD]
  split
  · next h => rw [List.getElem?_append_left h]
  · next h => rw [List.getElem?_append_right (by omega)]

theorem getD_replicate (a d : α) (n i : Nat) :
    (List.replicate n a).getD i d = if i < n then a else d := by
  simp only [List.getD_eq_getElem?_getD, List.getElem?_replicate]
  split <;> rfl

theorem getD_reverse (l : List α) (d : α) (i : Nat) :
    l.reverse.getD i d = if i < l.length then l.getD (l.length - 1 - i) d else d := by
  simp only [List.getD_eq_getElem?_getD]
  split
  · next h => rw [List.getElem?_reverse h]
  · next h => rw [List.getElem?_eq_none (by simpa using h)]; rfl

theorem getD_drop (l : List α) (k i : Nat) (d : α) : (l.drop k).getD i d = l.getD (k + i) d := by
  simp only [List.getD_eq_getElem?_getD, List.getElem?_drop]

theorem getD_take_of_lt (l : List α) {k i : Nat} (d : α) (h : i < k) : (l.take k).getD i d = l.getD i d := by
  simp only [List.getD_eq_getElem?_getD, List.getElem?_take_of_lt h]

theorem getD_modify (l : List α) (d : α) (f : α → α) (i j : Nat) :
    (l.modify i f).getD j d = if i = j ∧ j < l.length then f (l.getD j d) else l.getD j d := by
  simp only [List.getD_eq_getElem?_getD, List.getElem?_modify]
  by_cases hj : j < l.length
  · simp only [List.getElem?_eq_getElem hj, hj, and_true]
    split <;> simp
  · simp only [hj, and_false, if_false]
    rw [List.getElem?_eq_none (by omega)]; rfl

theorem getD_set (l : List α) (d a : α) (i j : Nat) :
    (l.set i a).getD j d = if i = j ∧ j < l.length then a else l.getD j d := by
  simp only [List.getD_eq_getElem?_getD, List.getElem?_set]
  by_cases hij : i = j
  · subst hij
    by_cases hi : i < l.length <;> simp [hi]
  · simp [hij]

/-- no length hypothesis: the default absorbs (`0 * x = 0`) -/
theorem getD_zipWith (f : α → α → α) (a b : List α) (d : α) (i : Nat)
    (hl : ∀ x, f d x = d) (hr : ∀ x, f x d = d) :
    (List.zipWith f a b).getD i d = f (a.getD i d) (b.getD i d) := by
  simp only [List.getD_eq_getElem?_getD, List.getElem?_zipWith]
  cases a[i]? <;> cases b[i]? <;> simp [hl, hr]

theorem getD_zipWith_of_lt (f : α → β → γ) {a : List α} {b : List β} (da : α) (db : β) (dc : γ) {i : Nat}
    (ha : i < a.length) (hb : i < b.length) :
    (List.zipWith f a b).getD i dc = f (a.getD i da) (b.getD i db) := by
  simp [List.getD_eq_getElem?_getD, List.getElem?_zipWith, ha, hb]

theorem getD_zipWith_of_length_eq (f : α → α → α) {a b : List α} (d : α) (i : Nat)
    (h : a.length = b.length) (hd : f d d = d) :
    (List.zipWith f a b).getD i d = f (a.getD i d) (b.getD i d) := by
  simp only [List.getD_eq_getElem?_getD, List.getElem?_zipWith]
  by_cases hi : i < a.length
  · rw [List.getElem?_eq_getElem hi, List.getElem?_eq_getElem (h ▸ hi)]; rfl
  · rw [List.getElem?_eq_none (by omega), List.getElem?_eq_none (by omega)]; simp [hd]

/-! ### sorted and duplicate-free lists -/

theorem pairwise_getD {R : α → α → Prop} {l : List α} (h : l.Pairwise R) (d : α) {i j : Nat} (hij : i < j)
    (hj : j < l.length) : R (l.getD i d) (l.getD j d) := by
  rw [getD_of_lt d hj, getD_of_lt d (Nat.lt_trans hij hj)]
  exact List.pairwise_iff_getElem.mp h i j (Nat.lt_trans hij hj) hj hij

theorem pairwise_getD_of_le {R : α → α → Prop} {l : List α} (h : l.Pairwise R) (hr : ∀ a, R a a) (d : α) {i j : Nat}
    (hij : i ≤ j) (hj : j < l.length) : R (l.getD i d) (l.getD j d) := by
  rcases Nat.eq_or_lt_of_le hij with rfl | hlt
  · exact hr _
  · exact pairwise_getD h d hlt hj

theorem getD_inj_of_nodup {l : List α} (h : l.Nodup) (d : α) {i j : Nat} (hi : i < l.length)
    (hj : j < l.length) (e : l.getD i d = l.getD j d) : i = j := by
  rcases Nat.lt_trichotomy i j with h1 | h1 | h1
  · exact absurd e (pairwise_getD h d h1 hj)
  · exact h1
  · exact absurd e.symm (pairwise_getD h d h1 hi)

theorem zip_fst_nodup {l : List α} (h : l.Nodup) (l' : List β) : ((l.zip l').map Prod.fst).Nodup := by
  rw [List.zip_eq_zip_take_min, List.map_fst_zip (by simp)]
  exact h.sublist (List.take_sublist _ _)

theorem zip_tail_tab (f : Nat → β) (k : Nat) :
    ((List.range k).map f).zip ((List.range k).map f).tail = (List.range (k - 1)).map fun t => (f t, f (t + 1)) := by
  apply List.ext_getElem
  · simp only [List.length_zip, List.length_tail, List.length_map, List.length_range]; omega
  · intro i h1 h2
    simp only [List.getElem_zip, List.getElem_tail, List.getElem_map, List.getElem_range]

/-! ### row-major indices, tables -/

theorem divmod_pair (b i k : Nat) (hk : k < b) : (i * b + k) / b = i ∧ (i * b + k) % b = k := by
  rw [Nat.add_comm, Nat.add_mul_div_right _ _ (Nat.zero_lt_of_lt hk), Nat.add_mul_mod_self_right, Nat.div_eq_of_lt hk,
    Nat.mod_eq_of_lt hk, Nat.zero_add]
  exact ⟨rfl, rfl⟩

theorem pair_lt (a b i k : Nat) (hi : i < a) (hk : k < b) : i * b + k < a * b :=
  calc i * b + k < (i + 1) * b := by rw [Nat.succ_mul]; omega
    _ ≤ a * b := Nat.mul_le_mul_right b hi

theorem getD_flatten (L : List (List α)) (b : Nat) (hL : ∀ r ∈ L, r.length = b) (i k : Nat) (hk : k < b) (d : α) :
    L.flatten.getD (i * b + k) d = (L.getD i []).getD k d := by
  induction L generalizing i with
  | nil => rfl
  | cons r t ih =>
    have hr : r.length = b := hL r List.mem_cons_self
    rw [List.flatten_cons, getD_append, hr]
    rcases i with _ | i
    · rw [Nat.zero_mul, Nat.zero_add, if_pos hk]
      rfl
    · rw [if_neg (by rw [Nat.succ_mul]; omega), show (i + 1) * b + k - b = i * b + k by rw [Nat.succ_mul]; omega,
        ih (fun r hr => hL r (List.mem_cons_of_mem _ hr))]
      rfl

def ent (m : List (List Rat)) (i j : Nat) : Rat := (m.getD i []).getD j 0

theorem ent_zero_rows (p n r c : Nat) : ent (List.replicate p (List.replicate n (0:Rat))) r c = 0 := by
  unfold ent
  rw [getD_replicate]
  split
  · rw [getD_replicate]; split <;> rfl
  · rfl

def LenPres (f : List α → List α) : Prop := ∀ l, (f l).length = l.length

/-! ### folds -/

theorem foldl_congr_mem {σ τ : Type _} (f g : σ → τ → σ) (L : List τ) (h : ∀ s, ∀ p ∈ L, f s p = g s p) (s : σ) :
    L.foldl f s = L.foldl g s := by
  induction L generalizing s with
  | nil => rfl
  | cons p L ih =>
    rw [List.foldl_cons, List.foldl_cons, h s p List.mem_cons_self]
    exact ih (fun s q hq => h s q (List.mem_cons_of_mem _ hq)) _

theorem foldl_keeps {σ τ : Type _} (Inv : σ → Prop) (step : σ → τ → σ) (L : List τ)
    (hstep : ∀ s a, Inv s → Inv (step s a)) (s : σ) (hs : Inv s) : Inv (L.foldl step s) := by
  induction L generalizing s with
  | nil => exact hs
  | cons a L ih => exact ih _ (hstep s a hs)

theorem foldl_add_eq_sum (l : List Rat) (x : Rat) : l.foldl (· + ·) x = x + l.sum := by
  induction l generalizing x with
  | nil => simp [Rat.add_zero]
  | cons a l ih => rw [List.foldl_cons, ih, List.sum_cons, Rat.add_assoc]

/-! ### index traces -/

theorem forall_mem_ite {c : Prop} [Decidable c] {l₁ l₂ : List α} {P : α → Prop} :
    (∀ x ∈ if c then l₁ else l₂, P x) ↔ (c → ∀ x ∈ l₁, P x) ∧ (¬c → ∀ x ∈ l₂, P x) := by
  split <;> simp only [*, true_imp_iff, false_imp_iff, not_true_eq_false, not_false_eq_true, and_true, true_and]

-- `Nat.lt_sub_iff_add_lt`: a loop `range(start, stop)` is modelled as `List.range (stop - start)`; its bound is handed on as
-- `t + start < stop`, free of the truncated subtraction that costs `omega` a case split per occurrence
attribute [forall_trace] List.forall_mem_append List.forall_mem_flatMap List.forall_mem_map List.forall_mem_cons forall_mem_ite
  List.mem_range Nat.lt_sub_iff_add_lt List.not_mem_nil false_imp_iff implies_true and_true true_and

end PbVerif.Lemmas
