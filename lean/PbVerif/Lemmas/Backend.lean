import PbVerif.Model.Backend
import PbVerif.Lemmas.Whittaker
/-! Lemmas for C10: which layout and which solver a Whittaker system gets, and that the array each method assembles for it
stores the documented matrix in the layout that solver reads. -/
namespace PbVerif.Lemmas
open PbVerif.Banded PbVerif.Whittaker PbVerif.Backend

theorem setup_flags (n : Nat) (hasPentapy : Bool) (solver d : Nat) (al : Bool) (rev : Option Bool) :
    let s := setup n hasPentapy solver d al rev
    s.usingPentapy = (decide (solver < 3) && hasPentapy && decide (d = 2)) ∧
    s.lower = (al && decide (solver < 4) && !s.usingPentapy) ∧
    s.reversed = (match rev with | some b => b | none => s.usingPentapy) ∧ s.diffOrder = d := by
  -- `setup` is `reset` on a system without diagonals, whose fields are the `…Of` functions of the configuration
  refine ⟨?_, rfl, ?_, rfl⟩
  · show (decide (solver < 3) && hasPentapy && (d == 2)) = _
    rw [beq_eq_decide]
  · rcases rev with _ | _ | _ <;> rfl

theorem setup_usingPentapy_iff (n : Nat) (hasPentapy : Bool) (solver d : Nat) (al : Bool) (rev : Option Bool) :
    (setup n hasPentapy solver d al rev).usingPentapy = true ↔ hasPentapy = true ∧ solver < 3 ∧ d = 2 := by
  rw [(setup_flags n hasPentapy solver d al rev).1]
  simp only [Bool.and_eq_true, decide_eq_true_eq]
  rw [and_assoc, and_left_comm]

theorem route_eq_pentapy {s : PSys} {solver v : Nat} :
    route s solver = .pentapy v ↔ s.usingPentapy = true ∧ v = pentapyVariant solver := by
  unfold route
  split
  · simp [*, eq_comm]
  · split <;> simp [*]

theorem route_eq_solveh {s : PSys} {solver : Nat} :
    route s solver = .solveh ↔ s.usingPentapy = false ∧ s.lower = true := by
  unfold route
  split
  · simp [*]
  · split <;> simp [*]

/-- `s` is any state `reset` can leave for the method's flags: pentapy excludes lower storage (`hup`), lower storage only where
the method allows it (`hlow`), reversal as the method asks (`hrev`) -/
theorem denRoute_asmOf (kind : Kind) (s : PSys) (solver n d : Nat) (lam p1 : Rat) (w alpha : List Rat)
    (hup : s.usingPentapy = true → s.lower = false) (hlow : s.lower = true → (methodFlags kind).1 = true)
    (hrev : s.reversed = (match (methodFlags kind).2 with | some b => b | none => s.usingPentapy))
    (hw : w.length = n) (ha : alpha.length = n) (hd : 1 ≤ d) (i j : Nat) (hi : i < n) (hj : j < n) :
    denRoute (route s solver) (asmOf kind n d lam p1 w alpha s) d i j = docOf kind n d lam p1 w alpha i j := by
  unfold route
  rcases hu : s.usingPentapy with _ | _
  · rcases hl : s.lower with _ | _
    · cases kind <;> simp only [methodFlags, hu] at hrev <;>
        simp only [asmOf, docOf, denRoute, hu, hl, hrev, Bool.false_eq_true, if_false]
      · exact (fullBand_asmStd n d lam w hw).den i j hi hj
      · exact (fullBand_asmIasls n d lam p1 w hw hd).den i j hi hj
      · exact (fullBand_asmDrpls n d lam p1 w hw hd).den i j hi hj
      · exact (fullBand_asmAspls n d lam w alpha hw ha).den i j hi hj
    · cases kind <;> simp only [methodFlags, hu, hl] at hrev hlow <;>
        simp only [asmOf, docOf, denRoute, hu, hl, hrev, Bool.false_eq_true, if_false, if_true]
      · exact (lowerBand_asmStd n d lam w hw).den i j hi hj
      · exact (lowerBand_asmIasls n d lam p1 w hw hd).den i j hi hj
      · exact absurd (hlow trivial) Bool.false_ne_true
      · exact absurd (hlow trivial) Bool.false_ne_true
  · cases kind <;> simp only [methodFlags, hu] at hrev <;>
      simp only [asmOf, docOf, denRoute, hu, hup hu, hrev, if_true]
    · exact (rowwiseBand_asmStd n d lam w hw).den i j hi hj
    · exact (rowwiseBand_asmIasls n d lam p1 w hw hd).den i j hi hj
    · exact (rowwiseBand_asmDrpls n d lam p1 w hw hd).den i j hi hj
    · exact (rowwiseBand_asmAspls n d lam w alpha hw ha).den i j hi hj

theorem backend_independent (kind : Kind) (solver : Nat) (hs : 1 ≤ solver ∧ solver ≤ 4) (hasPentapy : Bool) (n d : Nat) (lam p1 : Rat)
    (w alpha : List Rat) (hw : w.length = n) (ha : alpha.length = n) (hd : 1 ≤ d) (i j : Nat) (hi : i < n) (hj : j < n) :
    denRoute (route (setup n hasPentapy solver d (methodFlags kind).1 (methodFlags kind).2) solver)
      (asmOf kind n d lam p1 w alpha (setup n hasPentapy solver d (methodFlags kind).1 (methodFlags kind).2)) d i j
      = docOf kind n d lam p1 w alpha i j := by
  obtain ⟨-, h2, h3, -⟩ := setup_flags n hasPentapy solver d (methodFlags kind).1 (methodFlags kind).2
  refine denRoute_asmOf kind _ solver n d lam p1 w alpha (fun h => ?_) (fun h => ?_) h3 hw ha hd i j hi hj
  · rw [h2, h]; simp
  · rw [h2] at h; simp at h; exact h.1.1

end PbVerif.Lemmas
