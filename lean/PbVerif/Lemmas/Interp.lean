import PbVerif.Model.PSpline
import PbVerif.Lemmas.ListAux
import Mathlib.Tactic.Linarith
import Mathlib.Data.Nat.Find
/-! `_basis_midpoints` (one point per basis function; which knots each is) and `np.interp` (a convex combination of two node values,
exact at the nodes of a strictly increasing grid): what `pspline_drpls` / `pspline_aspls` use to carry weights onto the coefficient grid. -/
namespace PbVerif.Lemmas
open PbVerif.BSpline PbVerif.PSpline

theorem basisMidpointsCount_eq_sub (L deg : Nat) : basisMidpointsCount L deg = L - (deg + 1) := by
  unfold basisMidpointsCount
  split
  · rw [Nat.sub_sub]; congr 1; omega
  · rw [Nat.sub_sub, Nat.sub_sub]; congr 1; omega

theorem basisMidpointsCount_eq (numKnots deg : Nat) :
    basisMidpointsCount (numKnots + 2 * deg) deg = numKnots + deg - 1 := by
  rw [basisMidpointsCount_eq_sub]; omega

theorem basisMidpoints_length (knots : List Rat) (deg : Nat) :
    (basisMidpoints knots deg).length = basisMidpointsCount knots.length deg := by
  unfold basisMidpoints basisMidpointsCount
  split
  · rw [List.length_drop, List.length_take, Nat.min_eq_left (Nat.sub_le _ _)]
  · simp only [List.length_drop, List.length_take, List.length_zipWith]
    rw [Nat.min_eq_left (Nat.sub_le _ _), Nat.min_eq_left (Nat.sub_le _ _)]

/-- odd degree `2q+1`: the i-th midpoint is the middle knot `t_{i+q+1}` of the support `t_i … t_{i+2q+2}` -/
theorem getD_basisMidpoints_odd (knots : List Rat) (q i : Nat) (hi : i + 2 * q + 2 < knots.length) :
    (basisMidpoints knots (2 * q + 1)).getD i 0 = knots.getD (1 + q + i) 0 := by
  have e : (2 * q + 1) / 2 = q := by omega
  rw [basisMidpoints, if_pos (Nat.mul_add_mod 2 q 1), e, getD_drop, getD_take_of_lt _ _ (by omega)]

/-- even degree `2q`: the mean of the two middle knots `t_{i+q}`, `t_{i+q+1}` of the support `t_i … t_{i+2q+1}` -/
theorem getD_basisMidpoints_even (knots : List Rat) (q i : Nat) (hi : i + 2 * q + 1 < knots.length) :
    (basisMidpoints knots (2 * q)).getD i 0 = (knots.getD (1 + (q + i)) 0 + knots.getD (q + i) 0) / 2 := by
  have hm : (List.zipWith (fun a b => (a + b) / 2) (knots.drop 1) knots).length = knots.length - 1 := by
    rw [List.length_zipWith, List.length_drop, Nat.min_eq_left (Nat.sub_le _ _)]
  rw [basisMidpoints, if_neg (by rw [Nat.mul_mod_right]; decide), Nat.mul_div_cancel_left q Nat.two_pos]
  simp only [hm]
  rw [getD_drop, getD_take_of_lt _ _ (by omega), getD_zipWith_of_lt _ 0 0 0 (by rw [List.length_drop]; omega) (by omega), getD_drop]

theorem interpMid_length (knots xs vs : List Rat) (deg : Nat) : (interpMid knots xs vs deg).length = knots.length - (deg + 1) := by
  rw [interpMid, List.length_map, basisMidpoints_length, basisMidpointsCount_eq_sub]

def apKnots (a h : Rat) (K : Nat) : List Rat := (List.range K).map fun (j : Nat) => a + (j : Rat) * h

theorem apKnots_getD (a h : Rat) (K j : Nat) (hj : j < K) : (apKnots a h K).getD j 0 = a + (j : Rat) * h :=
  getD_range_map _ 0 hj

theorem apKnots_length (a h : Rat) (K : Nat) : (apKnots a h K).length = K := by
  rw [apKnots, List.length_map, List.length_range]

/-- the index search of `npInterp` is `Nat.findGreatest`: the last `j ≤ m` with `p j`, 0 if there is none -/
theorem foldl_eq_findGreatest (p : Nat → Prop) [DecidablePred p] (m : Nat) :
    (List.range (m + 1)).foldl (fun acc j => if p j then j else acc) 0 = Nat.findGreatest p m := by
  induction m with
  | zero => exact ite_self 0
  | succ m ih => rw [List.range_succ, List.foldl_append, ih, Nat.findGreatest_succ]; rfl

theorem pairwise_getD_le_iff (xs : List Rat) (hx : xs.Pairwise (· < ·)) {i j : Nat} (hi : i < xs.length) (hj : j < xs.length) :
    xs.getD i 0 ≤ xs.getD j 0 ↔ i ≤ j := by
  refine ⟨fun h => Nat.le_of_not_lt fun hn => absurd (pairwise_getD hx 0 hn hi) (not_lt.2 h), fun h => ?_⟩
  rcases Nat.eq_or_lt_of_le h with rfl | hl
  · exact le_rfl
  · exact (pairwise_getD hx 0 hl hj).le

theorem npInterp_cases (xs vs : List Rat) (t : Rat) (hn : 0 < xs.length) :
    (t ≤ xs.getD 0 0 ∧ npInterp xs vs t = vs.getD 0 0) ∨
    (xs.getD 0 0 < t ∧ xs.getD (xs.length - 1) 0 ≤ t ∧ npInterp xs vs t = vs.getD (xs.length - 1) 0) ∨
    (∃ r, r + 1 < xs.length ∧ xs.getD r 0 ≤ t ∧ t < xs.getD (r + 1) 0 ∧
      npInterp xs vs t = vs.getD r 0 + (t - xs.getD r 0) * (vs.getD (r + 1) 0 - vs.getD r 0) / (xs.getD (r + 1) 0 - xs.getD r 0)) := by
  unfold npInterp
  simp only [Nat.ne_of_gt hn, if_false]
  by_cases h1 : t ≤ xs.getD 0 0
  · exact Or.inl ⟨h1, if_pos h1⟩
  · rw [if_neg h1]
    have h1' : xs.getD 0 0 < t := lt_of_not_ge h1
    by_cases h2 : xs.getD (xs.length - 1) 0 ≤ t
    · exact Or.inr (Or.inl ⟨h1', h2, if_pos h2⟩)
    · rw [if_neg h2]
      obtain ⟨m, hm⟩ := Nat.exists_eq_succ_of_ne_zero (Nat.ne_of_gt hn)
      rw [hm, Nat.succ_sub_one] at h2
      rw [hm, foldl_eq_findGreatest]
      -- `r`, the last node not beyond `t`, is not the last node (`h2`), so `r + 1` is a node, and it lies beyond `t`
      have hb := Nat.findGreatest_spec (P := fun j => xs.getD j 0 ≤ t) (Nat.zero_le m) h1'.le
      have hr := lt_of_le_of_ne (Nat.findGreatest_le m) fun e => h2 (e ▸ hb)
      exact Or.inr (Or.inr ⟨_, Nat.succ_lt_succ hr, hb, lt_of_not_ge (Nat.findGreatest_is_greatest (Nat.lt_succ_self _) hr), rfl⟩)

theorem npInterp_convex (xs vs : List Rat) (t : Rat) (hn : 0 < xs.length) :
    ∃ r s θ, r < xs.length ∧ s < xs.length ∧ 0 ≤ θ ∧ θ ≤ 1 ∧ npInterp xs vs t = vs.getD r 0 + θ * (vs.getD s 0 - vs.getD r 0) := by
  rcases npInterp_cases xs vs t hn with ⟨_, e⟩ | ⟨_, _, e⟩ | ⟨r, hr, h1, h2, e⟩
  · exact ⟨0, 0, 0, hn, hn, le_rfl, zero_le_one, by rw [e, zero_mul, add_zero]⟩
  · exact ⟨xs.length - 1, xs.length - 1, 0, by omega, by omega, le_rfl, zero_le_one, by rw [e, zero_mul, add_zero]⟩
  · have hd : 0 < xs.getD (r + 1) 0 - xs.getD r 0 := sub_pos.2 (lt_of_le_of_lt h1 h2)
    exact ⟨r, r + 1, _, by omega, hr, div_nonneg (sub_nonneg.2 h1) hd.le,
      (div_le_one₀ hd).2 (sub_le_sub_right h2.le _), by rw [e, mul_div_right_comm]⟩

theorem convex_bounds {lo hi v0 v1 θ : Rat} (h0 : 0 ≤ θ) (h1 : θ ≤ 1) (a0 : lo ≤ v0) (b0 : v0 ≤ hi) (a1 : lo ≤ v1) (b1 : v1 ≤ hi) :
    lo ≤ v0 + θ * (v1 - v0) ∧ v0 + θ * (v1 - v0) ≤ hi := by
  have p0 := mul_nonneg h0 (sub_nonneg.2 a1)
  have p1 := mul_nonneg (sub_nonneg.2 h1) (sub_nonneg.2 a0)
  have q0 := mul_nonneg h0 (sub_nonneg.2 b1)
  have q1 := mul_nonneg (sub_nonneg.2 h1) (sub_nonneg.2 b0)
  constructor <;> linarith

theorem npInterp_const (xs : List Rat) (v t : Rat) (hn : 0 < xs.length) : npInterp xs (List.replicate xs.length v) t = v := by
  obtain ⟨r, s, θ, hr, hs, _, _, e⟩ := npInterp_convex xs (List.replicate xs.length v) t hn
  rw [e, getD_replicate, getD_replicate, if_pos hr, if_pos hs, sub_self, mul_zero, add_zero]

theorem npInterp_bounds (xs vs : List Rat) (lo hi t : Rat) (hl : vs.length = xs.length) (hn : 0 < xs.length)
    (hb : ∀ v ∈ vs, lo ≤ v ∧ v ≤ hi) : lo ≤ npInterp xs vs t ∧ npInterp xs vs t ≤ hi := by
  obtain ⟨r, s, θ, hr, hs, h0, h1, e⟩ := npInterp_convex xs vs t hn
  have br := hb _ (getD_mem 0 (hl ▸ hr))
  have bs := hb _ (getD_mem 0 (hl ▸ hs))
  rw [e]
  exact convex_bounds h0 h1 br.1 br.2 bs.1 bs.2

end PbVerif.Lemmas
