import PbVerif.Model.Loop
/-! The loop skeleton of the iteratively reweighted methods: every run is quiet (no exit signal, no convergence) up to some
step `n`, where exactly one of the three stops happens. Props/C01 and Props/C09 read their statements per stop reason off that. -/
namespace PbVerif.Lemmas
open PbVerif.Loop

theorem loopFrom_cases (d : Nat → Rat) (exit : Nat → Bool) (tol : Rat) (r k : Nat) :
    ∃ n, k ≤ n ∧ (∀ j, k ≤ j → j < n → exit j = false ∧ ¬ d j < tol) ∧
      (loopFrom d exit tol r k = (n, .early) ∧ n < k + r ∧ exit n = true ∨
       loopFrom d exit tol r k = (n + 1, .converged) ∧ n < k + r ∧ exit n = false ∧ d n < tol ∨
       loopFrom d exit tol r k = (n, .exhausted) ∧ n = k + r) := by
  have none : ∀ k j, k ≤ j → j < k → exit j = false ∧ ¬ d j < tol := fun _ _ h1 h2 => absurd h2 (Nat.not_lt.2 h1)
  fun_induction loopFrom d exit tol r k with
  | case1 k => exact ⟨k, Nat.le_refl k, none k, .inr (.inr ⟨rfl, rfl⟩)⟩
  | case2 r k he => exact ⟨k, Nat.le_refl k, none k, .inl ⟨rfl, Nat.lt_add_of_pos_right (Nat.succ_pos r), he⟩⟩
  | case3 r k he hd =>
    exact ⟨k, Nat.le_refl k, none k, .inr (.inl ⟨rfl, Nat.lt_add_of_pos_right (Nat.succ_pos r), Bool.eq_false_iff.2 he, hd⟩)⟩
  | case4 r k he hd ih =>
    obtain ⟨n, hkn, hq, hc⟩ := ih
    rw [Nat.add_right_comm k 1 r] at hc
    refine ⟨n, Nat.le_of_succ_le hkn, fun j h1 h2 => ?_, hc⟩
    rcases Nat.eq_or_lt_of_le h1 with rfl | h1
    · exact ⟨Bool.eq_false_iff.2 he, hd⟩
    · exact hq j h1 h2

theorem runLoop_cases (budget : Nat) (tol : Rat) (d : Nat → Rat) (exit : Nat → Bool) :
    ∃ n, (∀ j, j < n → exit j = false ∧ ¬ d j < tol) ∧
      (runLoop budget tol d exit = (n, .early) ∧ n < budget ∧ exit n = true ∨
       runLoop budget tol d exit = (n + 1, .converged) ∧ n < budget ∧ exit n = false ∧ d n < tol ∨
       runLoop budget tol d exit = (n, .exhausted) ∧ n = budget) := by
  obtain ⟨n, -, hq, hc⟩ := loopFrom_cases d exit tol budget 0
  rw [Nat.zero_add] at hc
  exact ⟨n, fun j => hq j (Nat.zero_le j), hc⟩

theorem loopFrom_congr (d d' : Nat → Rat) (exit : Nat → Bool) (tol : Rat) (h : ∀ k, d k < tol ↔ d' k < tol) :
    ∀ f k, loopFrom d exit tol f k = loopFrom d' exit tol f k := by
  intro f
  induction f with
  | zero => intro k; rfl
  | succ f ih =>
    intro k
    simp only [loopFrom, ih, h k]

theorem loopFrom_mono (d : Nat → Rat) (exit : Nat → Bool) (tol : Rat) (r k : Nat) :
    (loopFrom d exit tol r k).1 ≤ (loopFrom d exit tol (r + 1) k).1 := by
  fun_induction loopFrom d exit tol r k with
  | case1 k =>
    obtain ⟨n, hkn, -, ⟨e, -⟩ | ⟨e, -⟩ | ⟨e, -⟩⟩ := loopFrom_cases d exit tol 1 k <;> rw [e]
    · exact hkn
    · exact Nat.le_succ_of_le hkn
    · exact hkn
  | case2 r k he => rw [loopFrom, if_pos he]; exact Nat.le_refl k
  | case3 r k he hd => rw [loopFrom, if_neg he, if_pos hd]; exact Nat.le_refl _
  | case4 r k he hd ih => rw [loopFrom, if_neg he, if_neg hd]; exact ih

end PbVerif.Lemmas
