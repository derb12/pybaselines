import PbVerif.Lemmas.Kernels
import PbVerif.Lemmas.ListAux
/-! `_quadratic_bezier_spline` (C05). Two facts carry it: an `indices` position that is in range as written (negative ones count
from the end) reads a valid index of `x` (`ixGet_inb`), and every half-way index lies between its two control points whatever
`argmin` returns (`bezRight_bounds`). With them each segment of the trace (first, loop body, last) is in bounds by arithmetic. -/
namespace PbVerif.Lemmas
open PbVerif.Kernels

theorem BezPre.get_inb {N : Nat} {ix : List Int} (h : BezPre N ix) (j : Nat) (hj : j < ix.length) :
    0 ≤ ix.getD j 0 ∧ ix.getD j 0 < N := h.inb j hj

theorem BezPre.get_mono {N : Nat} {ix : List Int} (h : BezPre N ix) (j : Nat) (hj : j + 1 < ix.length) :
    ix.getD j 0 ≤ ix.getD (j + 1) 0 := h.mono j hj

theorem bezPreB_iff (N : Nat) (ix : List Int) : bezPreB N ix = true ↔ BezPre N ix := by
  unfold bezPreB
  simp only [Bool.and_eq_true, List.all_eq_true, List.mem_range, decide_eq_true_eq]
  exact ⟨fun ⟨h1, h2⟩ => ⟨h1, fun p hp => h2 p (by omega)⟩, fun ⟨h1, h2⟩ => ⟨h1, fun p hp => h2 p (by omega)⟩⟩

theorem bezPre_of_increasing {N : Nat} {l : List Nat} (hpw : l.Pairwise (· < ·)) (hlt : ∀ i ∈ l, i < N) :
    BezPre N (l.map fun (i : Nat) => (i : Int)) := by
  constructor
  · intro p hp
    rw [List.length_map] at hp
    rw [getD_map_of_lt _ 0 0 hp]
    have := hlt _ (getD_mem 0 hp)
    omega
  · intro p hp
    rw [List.length_map] at hp
    rw [getD_map_of_lt _ 0 0 (Nat.lt_of_succ_lt hp), getD_map_of_lt _ 0 0 hp]
    have := pairwise_getD hpw 0 (Nat.lt_add_one p) hp
    omega

theorem ixGet_inb {N : Nat} {ix : List Int} (h : BezPre N ix) (p : Int) (lo : -(ix.length : Int) ≤ p) (hi : p < ix.length) :
    0 ≤ ixGet ix p ∧ ixGet ix p < N := by
  unfold ixGet
  split
  · exact h.inb _ (by omega)
  · exact h.inb _ (by omega)

theorem ixGet_mono {N : Nat} {ix : List Int} (h : BezPre N ix) (j : Nat) (hj : j + 1 < ix.length) :
    ixGet ix j ≤ ixGet ix (j + 1) := by
  unfold ixGet
  rw [if_neg (by omega), if_neg (by omega), Int.toNat_natCast, Int.toNat_natCast_add_one]
  exact h.mono j hj

theorem bezRight_bounds {N : Nat} {ix : List Int} (h : BezPre N ix) (am : Nat → Nat) (j : Nat)
    (hj : j + 1 < ix.length) :
    0 ≤ ixGet ix j ∧ ixGet ix j ≤ bezRight N ix am j ∧ bezRight N ix am j ≤ ixGet ix (j + 1) ∧ ixGet ix (j + 1) < N := by
  have h1 := ixGet_inb h j (by omega) (by omega)
  have h2 := ixGet_inb h (j + 1) (by omega) (by omega)
  have h3 := ixGet_mono h j hj
  have hs := sliceLen_of_inb (ixGet ix j) (ixGet ix (j + 1) + 1) N (by omega) (by omega) (by omega)
  have hm := Nat.mod_lt (am (j - 1)) (show 0 < sliceLen (ixGet ix j) (ixGet ix (j + 1) + 1) N by omega)
  unfold bezRight
  dsimp only
  omega

theorem bezFirst_ok {N : Nat} {ix : List Int} (h : BezPre N ix) (am : Nat → Nat) (hM : 4 ≤ ix.length) :
    ∀ e ∈ bezFirst N ix am, e.Ok N N ix.length := by
  -- the model writes the positions `((1 : Nat) : Int)`, `((1 : Nat) : Int) + 1` of `bezRight_bounds` as `1`, `2`
  have b : 0 ≤ ixGet ix 1 ∧ ixGet ix 1 ≤ _ ∧ _ ≤ ixGet ix 2 ∧ ixGet ix 2 < _ := bezRight_bounds h am 1 (by omega)
  have g0 := ixGet_inb h 0 (by omega) (by omega)
  simp only [bezFirst, forall_trace, Ev.Ok]
  omega

theorem bezIter_ok {N : Nat} {ix : List Int} (h : BezPre N ix) (am : Nat → Nat) (eq : Nat → Bool) (j : Nat)
    (hj2 : 2 ≤ j) (hj : j + 2 < ix.length) :
    ∀ e ∈ bezIter N ix am eq j, e.Ok N N ix.length := by
  have bl := bezRight_bounds h am (j - 1) (by omega)
  have br := bezRight_bounds h am j (by omega)
  rw [show ((j - 1 : Nat) : Int) + 1 = j by omega] at bl
  simp only [bezIter, forall_trace, Ev.Ok]
  omega

theorem bezLast_ok {N : Nat} {ix : List Int} (h : BezPre N ix) (am : Nat → Nat) (hM : 4 ≤ ix.length) :
    ∀ e ∈ bezLast N ix am, e.Ok N N ix.length := by
  have b := bezRight_bounds h am (ix.length - 3) (by omega)
  have g2 := ixGet_inb h (-2) (by omega) (by omega)
  have g1 := ixGet_inb h (-1) (by omega) (by omega)
  simp only [bezLast, forall_trace, Ev.Ok]
  omega

theorem cutAtEmpty_eq_self (N ny M : Nat) : ∀ l : List Ev, (∀ e ∈ l, e.Ok N ny M) → cutAtEmpty N l = l := by
  intro l
  induction l with
  | nil => intro _; rfl
  | cons a t ih =>
    intro hl
    have ht := ih (fun e he => hl e (List.mem_cons_of_mem _ he))
    cases a with
    | am lo hi =>
      have ha := hl (.am lo hi) (by simp)
      simp only [Ev.Ok] at ha
      have hs := sliceLen_of_inb lo hi N (by omega) (by omega) (by omega)
      simp only [cutAtEmpty]
      rw [if_neg (by omega), ht]
    | _ => simp only [cutAtEmpty, ht]

end PbVerif.Lemmas
