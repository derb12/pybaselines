import PbVerif.Model.Morph
import PbVerif.Lemmas.Window
import PbVerif.Lemmas.ListAux
/-! C14, 1-D morphology and `snip`: the window `i-h … i+h` is a flat erosion / dilation in the sense of `Window.lean`;
the window of a signal that has the symmetries of a reflected extension (`ReflSym`) has them again, so reflection commutes
with it and a finite signal is read through its reflected extension, where the opening laws are those of `Glb`. -/
namespace PbVerif.Lemmas
open PbVerif.Morph

def LeL (a b : List Rat) : Prop := a.length = b.length ∧ ∀ i, i < a.length → a.getD i 0 ≤ b.getD i 0

theorem LeL_refl (a : List Rat) : LeL a a := ⟨rfl, fun _ _ => Rat.le_refl⟩

theorem LeL_trans {a b c : List Rat} (h1 : LeL a b) (h2 : LeL b c) : LeL a c :=
  ⟨h1.1.trans h2.1, fun i hi => Rat.le_trans (h1.2 i hi) (h2.2 i (h1.1 ▸ hi))⟩

variable {R : Rat → Rat → Prop} {op : Rat → Rat → Rat}

/-! ### the window -/
theorem foldl_glb (d : Dir R op) (l : List Nat) (a : Rat) (b : Nat → Rat) (c : Rat) :
    R c (l.foldl (fun acc k => op acc (b k)) a) ↔ R c a ∧ ∀ k ∈ l, R c (b k) := by
  induction l generalizing a with
  | nil => simp
  | cons x xs ih => simp only [List.foldl_cons, ih, d.glb, List.mem_cons, forall_eq_or_imp, and_assoc]

def Near (h : Nat) (i j : Int) : Prop := i - h ≤ j ∧ j ≤ i + h

theorem Near.symm {h : Nat} (i j : Int) (H : Near h i j) : Near h j i := by unfold Near at *; omega

theorem Near.add_iff {h : Nat} {i a : Int} : Near h i (i + a) ↔ -(h:Int) ≤ a ∧ a ≤ h := by unfold Near; omega

theorem Near.add {h : Nat} {i j : Int} (H : Near h i j) (p : Int) : Near h (i + p) (j + p) := by unfold Near at *; omega
theorem Near.sub {h : Nat} {i j p : Int} (H : Near h (i + p) j) : Near h i (j - p) := by unfold Near at *; omega
/-- `k ↦ -1 - k` is the mirror of `mode='reflect'`, `(… b a | a b …)`: index -1 repeats index 0 -/
theorem Near.mirror {h : Nat} {i j : Int} (H : Near h i j) : Near h (-1 - i) (-1 - j) := by unfold Near at *; omega
theorem Near.of_mirror {h : Nat} {i j : Int} (H : Near h (-1 - i) j) : Near h i (-1 - j) := by unfold Near at *; omega

theorem winFold_iff (d : Dir R op) {g : Int → Rat} {h : Nat} {i : Int} {c : Rat} :
    R c (winFold op g h i) ↔ ∀ j, Near h i j → R c (g j) := by
  unfold winFold
  rw [foldl_glb d]
  constructor
  · rintro ⟨h0, H⟩ j ⟨h1, h2⟩
    by_cases hj : j = i - h
    · rw [hj]; exact h0
    · have := H (j - (i - h) - 1).toNat (List.mem_range.mpr (by omega))
      rwa [show i - (h:Int) + 1 + ((j - (i - h) - 1).toNat : Int) = j by omega] at this
  · intro H
    exact ⟨H _ ⟨by omega, by omega⟩, fun k hk => H _ ⟨by omega, by have := List.mem_range.mp hk; omega⟩⟩

theorem winFold_glb (d : Dir R op) (h : Nat) : Glb R (Near h) (fun g => winFold op g h) :=
  fun _ _ _ => winFold_iff d

/-! ### reflection -/
theorem reflIdx_def (n : Nat) (i : Int) : reflIdx n i =
    if i % (2 * (n:Int)) < n then (i % (2 * (n:Int))).toNat else (2 * (n:Int) - 1 - i % (2 * (n:Int))).toNat := rfl

theorem emod_two_mul (n : Nat) (hn : 0 < n) (i : Int) :
    ∃ q m : Int, i % (2 * (n:Int)) = m ∧ i = 2 * (n:Int) * q + m ∧ 0 ≤ m ∧ m < 2 * (n:Int) :=
  ⟨_, _, rfl, (Int.mul_ediv_add_emod i _).symm, Int.emod_nonneg _ (by omega), Int.emod_lt_of_pos _ (by omega)⟩

theorem reflIdx_lt (n : Nat) (hn : 0 < n) (i : Int) : reflIdx n i < n := by
  obtain ⟨q, m, hm, -, h0, h1⟩ := emod_two_mul n hn i
  rw [reflIdx_def, hm]; split <;> omega

theorem reflIdx_of_lt (n : Nat) (i : Nat) (hi : i < n) : reflIdx n (i : Int) = i := by
  rw [reflIdx_def, Int.emod_eq_of_lt (by omega) (by omega)]; split <;> omega

theorem reflIdx_period (n : Nat) (k q : Int) : reflIdx n (k + 2 * (n:Int) * q) = reflIdx n k := by
  simp only [reflIdx_def, Int.add_mul_emod_self_left]

theorem reflIdx_mirror (n : Nat) (hn : 0 < n) (k : Int) : reflIdx n (-1 - k) = reflIdx n k := by
  obtain ⟨q, m, hm, hk, h0, h1⟩ := emod_two_mul n hn k
  have e : (-1 - k) % (2 * (n:Int)) = 2 * (n:Int) - 1 - m := by
    rw [show -1 - k = (2 * (n:Int) - 1 - m) + 2 * (n:Int) * (-q - 1) by rw [Int.mul_sub, Int.mul_neg]; omega,
      Int.add_mul_emod_self_left]
    exact Int.emod_eq_of_lt (by omega) (by omega)
  rw [reflIdx_def, reflIdx_def, e, hm]
  clear hk e hm   -- only so that `omega` sees a smaller context
  by_cases hmn : m < n
  · rw [if_pos hmn, if_neg (by omega)]; omega
  · rw [if_neg hmn, if_pos (by omega)]

theorem reflIdx_cases (n : Nat) (hn : 0 < n) (i : Int) :
    ∃ q : Int, i = (reflIdx n i : Int) + 2 * (n:Int) * q ∨ i = (-1 - (reflIdx n i : Int)) + 2 * (n:Int) * q := by
  obtain ⟨q, m, hm, hk, h0, h1⟩ := emod_two_mul n hn i
  rw [reflIdx_def, hm]
  by_cases hmn : m < n
  · exact ⟨q, Or.inl (by rw [if_pos hmn]; omega)⟩
  · exact ⟨q + 1, Or.inr (by rw [if_neg hmn, Int.mul_add]; omega)⟩

theorem ext_of_lt (f : List Rat) (i : Nat) (hi : i < f.length) : ext f (i : Int) = f.getD i 0 := by
  unfold ext; rw [reflIdx_of_lt _ _ hi]

/-- the symmetries of a reflected extension of length `n`, period `2n` and the mirror: a signal that has them is determined
by its values on `[0, n)` (`ReflSym.reduce`) -/
def ReflSym (n : Nat) (F : Int → Rat) : Prop :=
  (∀ i q : Int, F (i + 2 * (n:Int) * q) = F i) ∧ ∀ i : Int, F (-1 - i) = F i

theorem ext_reflSym (f : List Rat) (hn : 0 < f.length) : ReflSym f.length (ext f) :=
  ⟨fun k q => by unfold ext; rw [reflIdx_period], fun k => by unfold ext; rw [reflIdx_mirror _ hn]⟩

/-- translations and the mirror map windows onto windows -/
theorem ReflSym.winFold (d : Dir R op) {n : Nat} {g : Int → Rat} (hg : ReflSym n g) (h : Nat) :
    ReflSym n fun i => winFold op g h i :=
  ⟨fun i q => (winFold_glb d h).congr d (· - 2 * (n:Int) * q) (· + 2 * (n:Int) * q)
      (fun j hj => ⟨hj.sub, by rw [← hg.1 (j - 2 * (n:Int) * q) q, Int.sub_add_cancel]⟩)
      (fun j hj => ⟨hj.add _, hg.1 j q⟩),
    fun i => (winFold_glb d h).congr d (-1 - ·) (-1 - ·)
      (fun j hj => ⟨hj.of_mirror, hg.2 j⟩) (fun j hj => ⟨hj.mirror, hg.2 j⟩)⟩

theorem ReflSym.reduce {n : Nat} {F : Int → Rat} (hF : ReflSym n F) (hn : 0 < n) (i : Int) :
    F i = F (reflIdx n i : Int) := by
  obtain ⟨q, hq | hq⟩ := reflIdx_cases n hn i
  · rw [← hF.1 (reflIdx n i : Int) q, ← hq]
  · rw [← hF.2 (reflIdx n i : Int), ← hF.1 (-1 - (reflIdx n i : Int)) q, ← hq]

/-! ### finite signals through their extension -/

/-- `erode h` (`op` = `min`) and `dilate h` (`op` = `max`) -/
def winMap (op : Rat → Rat → Rat) (h : Nat) (f : List Rat) : List Rat :=
  (List.range f.length).map fun (i : Nat) => winFold op (ext f) h (i : Int)

theorem winMap_length (op : Rat → Rat → Rat) (h : Nat) (f : List Rat) : (winMap op h f).length = f.length := by
  rw [winMap, List.length_map, List.length_range]

theorem erode_length (h : Nat) (f : List Rat) : (erode h f).length = f.length := winMap_length min h f
theorem dilate_length (h : Nat) (f : List Rat) : (dilate h f).length = f.length := winMap_length max h f

theorem ext_winMap (d : Dir R op) (h : Nat) (f : List Rat) (hn : 0 < f.length) (i : Int) :
    ext (winMap op h f) i = winFold op (ext f) h i := by
  unfold ext
  rw [winMap_length, winMap, getD_range_map _ _ (reflIdx_lt f.length hn i)]
  exact (((ext_reflSym f hn).winFold d h).reduce hn i).symm

def Lifts (f : List Rat → List Rat) (W : (Int → Rat) → Int → Rat) : Prop :=
  LenPres f ∧ ∀ l, 0 < l.length → ext (f l) = W (ext l)

theorem Lifts.comp {f g : List Rat → List Rat} {W V : (Int → Rat) → Int → Rat} (hf : Lifts f W) (hg : Lifts g V) :
    Lifts (fun l => g (f l)) (fun X => V (W X)) :=
  ⟨fun l => (hg.1 _).trans (hf.1 l), fun l hl => by rw [hg.2 _ (by rw [hf.1]; exact hl), hf.2 l hl]⟩

theorem winMap_lifts (d : Dir R op) (h : Nat) : Lifts (winMap op h) (fun g => winFold op g h) :=
  ⟨winMap_length op h, fun f hn => funext (ext_winMap d h f hn)⟩

theorem opening_lifts (h : Nat) : Lifts (opening h) (fun g => winMax (winMin g h) h) :=
  (winMap_lifts dirMin h).comp (winMap_lifts dirMax h)

theorem opening_length (h : Nat) (f : List Rat) : (opening h f).length = f.length := (opening_lifts h).1 f

theorem LeL_of_ext {a b : List Rat} (hl : a.length = b.length) (H : 0 < b.length → ∀ i, ext a i ≤ ext b i) :
    LeL a b :=
  ⟨hl, fun i hi => by
    rw [← ext_of_lt a i hi, ← ext_of_lt b i (hl ▸ hi)]; exact H (Nat.zero_lt_of_lt (hl ▸ hi)) i⟩

theorem eq_of_ext {a b : List Rat} (hl : a.length = b.length) (H : 0 < b.length → ext a = ext b) : a = b :=
  ext_getD 0 hl fun i hi => by
    rw [← ext_of_lt a i hi, ← ext_of_lt b i (hl ▸ hi), H (Nat.zero_lt_of_lt (hl ▸ hi))]

theorem opening_le (h : Nat) (f : List Rat) : LeL (opening h f) f :=
  LeL_of_ext (opening_length h f) fun hn i => by
    rw [(opening_lifts h).2 f hn]
    exact (winFold_glb dirMin h).adj dirMin (winFold_glb dirMax h) Near.symm (ext f) i

theorem opening_idem (h : Nat) (f : List Rat) : opening h (opening h f) = opening h f :=
  eq_of_ext (opening_length h _) fun hn => by
    rw [(opening_lifts h).2 _ hn, (opening_lifts h).2 f (opening_length h f ▸ hn)]
    exact congrArg (fun g => winMax g h)
      ((winFold_glb dirMin h).EDE dirMin (winFold_glb dirMax h) dirMax Near.symm (ext f))

theorem ext_shift (f : List Rat) (hn : 0 < f.length) (c : Rat) :
    ext (f.map (· + c)) = fun k => ext f k + c := by
  funext k
  unfold ext
  rw [List.length_map]
  exact getD_map_of_lt _ 0 0 (reflIdx_lt f.length hn k)

theorem winMap_shift (d : Dir R op) (h : Nat) (f : List Rat) (c : Rat) :
    winMap op h (f.map (· + c)) = (winMap op h f).map (· + c) := by
  unfold winMap
  rw [List.length_map, List.map_map]
  exact List.map_congr_left fun i hi => by
    rw [ext_shift f (Nat.zero_lt_of_lt (List.mem_range.mp hi)) c]
    exact (winFold_glb d h).shift d _ c _

theorem erode_shift (h : Nat) (f : List Rat) (c : Rat) : erode h (f.map (· + c)) = (erode h f).map (· + c) :=
  winMap_shift dirMin h f c
theorem dilate_shift (h : Nat) (f : List Rat) (c : Rat) : dilate h (f.map (· + c)) = (dilate h f).map (· + c) :=
  winMap_shift dirMax h f c

theorem opening_shift (h : Nat) (f : List Rat) (c : Rat) :
    opening h (f.map (· + c)) = (opening h f).map (· + c) := by
  unfold opening; rw [erode_shift, dilate_shift]

theorem zipWith_shift (φ : Rat → Rat → Rat) (c : Rat) (hφ : ∀ x y, φ (x + c) (y + c) = φ x y + c) (a b : List Rat) :
    List.zipWith φ (a.map (· + c)) (b.map (· + c)) = (List.zipWith φ a b).map (· + c) := by
  rw [List.zipWith_map, List.map_zipWith]
  congr 1
  funext x y
  exact hφ x y

theorem avgOfOpening_shift (h : Nat) (f : List Rat) (c : Rat) :
    avgOfOpening h (f.map (· + c)) = (avgOfOpening h f).map (· + c) := by
  unfold avgOfOpening
  rw [erode_shift, dilate_shift, zipWith_shift _ c (by intro x y; grind)]

theorem avgOpening_shift (h : Nat) (f : List Rat) (c : Rat) :
    avgOpening h (f.map (· + c)) = (avgOpening h f).map (· + c) := by
  unfold avgOpening; rw [opening_shift, avgOfOpening_shift]

theorem mor_shift (h : Nat) (f : List Rat) (c : Rat) : mor h (f.map (· + c)) = (mor h f).map (· + c) := by
  unfold mor
  rw [opening_shift, avgOpening_shift, zipWith_shift min c (by intro x y; grind)]

theorem avgOpening_length (h : Nat) (f : List Rat) : (avgOpening h f).length = f.length := by
  rw [avgOpening, avgOfOpening, List.length_zipWith, dilate_length, erode_length, opening_length, Nat.min_self]

theorem zipWith_min_LeL_left (a b : List Rat) (hl : a.length = b.length) : LeL (List.zipWith min a b) a := by
  refine ⟨by simp [hl], fun i hi => ?_⟩
  simp only [List.length_zipWith] at hi
  rw [getD_zipWith_of_lt min 0 0 0 (by omega) (by omega)]
  exact Std.min_le_left

theorem mor_le (h : Nat) (f : List Rat) : LeL (mor h f) f :=
  LeL_trans (zipWith_min_LeL_left _ _ (by rw [opening_length, avgOpening_length])) (opening_le h f)

theorem imorIter_length (h : Nat) (y : List Rat) (k : Nat) : (imorIter h y k).length = y.length := by
  cases k with
  | zero => rfl
  | succ k => rw [imorIter, imorStep, List.length_zipWith, avgOpening_length, imorIter_length h y k, Nat.min_self]

theorem imor_le (h : Nat) (y : List Rat) (k : Nat) : LeL (imorIter h y k) y := by
  cases k with
  | zero => exact LeL_refl y
  | succ k => exact zipWith_min_LeL_left _ _ (by rw [avgOpening_length, imorIter_length])

/-! ### snip -/
theorem snipPass_length (order hwL hwR : Nat) (b : List Rat) (i : Nat) :
    (snipPass order hwL hwR b i).length = b.length := by
  simp only [snipPass, List.length_map, List.length_range]

theorem snipPass_le (order hwL hwR : Nat) (b : List Rat) (i : Nat) : LeL (snipPass order hwL hwR b i) b := by
  refine ⟨snipPass_length _ _ _ _ _, fun j hj => ?_⟩
  rw [snipPass_length] at hj
  unfold snipPass
  rw [getD_range_map _ _ hj]
  split
  · show (if b.getD j 0 > _ then _ else b.getD j 0) ≤ b.getD j 0
    split
    · next h => exact Rat.le_of_lt h
    · exact Rat.le_refl
  · exact Rat.le_refl

theorem snipFold_length (order hwL hwR : Nat) (l : List Nat) (b : List Rat) :
    (l.foldl (snipPass order hwL hwR) b).length = b.length :=
  foldl_keeps (·.length = b.length) _ l (fun s i hs => (snipPass_length order hwL hwR s i).trans hs) b rfl

theorem snipFold_le (order hwL hwR : Nat) (l : List Nat) (b : List Rat) :
    LeL (l.foldl (snipPass order hwL hwR) b) b :=
  foldl_keeps (LeL · b) _ l (fun s i hs => LeL_trans (snipPass_le order hwL hwR s i) hs) b (LeL_refl b)

theorem LeL.drop_take {a b : List Rat} (h : LeL a b) (m k : Nat) : LeL ((a.drop m).take k) ((b.drop m).take k) := by
  refine ⟨by simp [h.1], fun i hi => ?_⟩
  simp only [List.length_take, List.length_drop] at hi
  rw [getD_take_of_lt _ 0 (by omega), getD_take_of_lt _ 0 (by omega), getD_drop, getD_drop]
  exact h.2 _ (by omega)

/-- `snipFilter` as a function of the two-sided sums `s p q = b (j - p·il/q) + b (j + p·ir/q)` it reads -/
def snipComb (order : Nat) (s : Nat → Nat → Rat) : Rat :=
  let f2 := s 1 1 / 2
  let f4 := (-(s 1 1) + 4 * s 1 2) / 6
  let f6 := (s 1 1 - 6 * s 2 3 + 15 * s 1 3) / 20
  let f8 := (-(s 1 1) + 8 * s 3 4 - 28 * s 1 2 + 56 * s 1 4) / 70
  let r := f2
  let r := if order > 2 then max r f4 else r
  let r := if order > 4 then max r f6 else r
  if order > 6 then max r f8 else r

theorem snipFilter_eq (order : Nat) (b : Int → Rat) (j : Int) (il ir : Nat) :
    snipFilter order b j il ir
      = snipComb order fun p q => b (j - ((p * il / q : Nat) : Int)) + b (j + ((p * ir / q : Nat) : Int)) := rfl

theorem ite_max_add (p : Prop) [Decidable p] (r f c : Rat) :
    (if p then max (r + c) (f + c) else r + c) = (if p then max r f else r) + c := by
  split <;> grind

/-- each argument stands for a sum of two samples, so the weights of every filter sum to one (2/2, 6/6, 20/20, 70/70) -/
theorem snip_weights (a b e f g k c : Rat) :
    (a + 2 * c) / 2 = a / 2 + c ∧
    (-(a + 2 * c) + 4 * (b + 2 * c)) / 6 = (-a + 4 * b) / 6 + c ∧
    (a + 2 * c - 6 * (e + 2 * c) + 15 * (f + 2 * c)) / 20 = (a - 6 * e + 15 * f) / 20 + c ∧
    (-(a + 2 * c) + 8 * (g + 2 * c) - 28 * (b + 2 * c) + 56 * (k + 2 * c)) / 70
      = (-a + 8 * g - 28 * b + 56 * k) / 70 + c := by
  refine ⟨?_, ?_, ?_, ?_⟩ <;> grind

theorem snipComb_shift (order : Nat) (s s' : Nat → Nat → Rat) (c : Rat) (H : ∀ p q, p ≤ q → s' p q = s p q + 2 * c) :
    snipComb order s' = snipComb order s + c := by
  obtain ⟨f2, f4, f6, f8⟩ := snip_weights (s 1 1) (s 1 2) (s 2 3) (s 1 3) (s 3 4) (s 1 4) c
  simp only [snipComb, H 1 1 (by decide), H 1 2 (by decide), H 2 3 (by decide), H 1 3 (by decide),
    H 3 4 (by decide), H 1 4 (by decide), f2, f4, f6, f8, ite_max_add]

/-- the filter reads `b` only at `j - d`, `d ≤ il`, and `j + d`, `d ≤ ir` -/
theorem snipFilter_shift (order : Nat) (g g' : Int → Rat) (j : Int) (il ir : Nat) (c : Rat)
    (HL : ∀ d : Nat, d ≤ il → g' (j - (d : Int)) = g (j - (d : Int)) + c)
    (HR : ∀ d : Nat, d ≤ ir → g' (j + (d : Int)) = g (j + (d : Int)) + c) :
    snipFilter order g' j il ir = snipFilter order g j il ir + c := by
  rw [snipFilter_eq, snipFilter_eq]
  apply snipComb_shift
  intro p q hpq
  rw [HL _ (Nat.div_le_of_le_mul (Nat.mul_le_mul_right il hpq)),
    HR _ (Nat.div_le_of_le_mul (Nat.mul_le_mul_right ir hpq))]
  grind

theorem ite_gt_add (y F c : Rat) : (if y + c > F + c then F + c else y + c) = (if y > F then F else y) + c := by
  simp only [GT.gt, Rat.add_lt_add_right]; split <;> rfl

theorem snipPass_shift (order hwL hwR : Nat) (b : List Rat) (c : Rat) (i : Nat) :
    snipPass order hwL hwR (b.map (· + c)) i = (snipPass order hwL hwR b i).map (· + c) := by
  have hb : ∀ j, j < b.length → (b.map (· + c)).getD j 0 = b.getD j 0 + c := fun j hj => getD_map_of_lt _ 0 0 hj
  unfold snipPass
  rw [List.length_map, List.map_map]
  apply List.map_congr_left
  intro j hj
  simp only [Function.comp, hb j (List.mem_range.mp hj)]
  split
  · next hg =>
    rw [snipFilter_shift order (fun k : Int => b.getD k.toNat 0) _ j (min i hwL) (min i hwR) c
      (fun d hd => hb _ (by omega)) (fun d hd => hb _ (by omega))]
    exact ite_gt_add _ _ c
  · rfl

theorem snipFold_shift (order hwL hwR : Nat) (l : List Nat) (b : List Rat) (c : Rat) :
    l.foldl (snipPass order hwL hwR) (b.map (· + c)) = (l.foldl (snipPass order hwL hwR) b).map (· + c) :=
  List.foldl_hom (·.map (· + c)) (H := fun s i => snipPass_shift order hwL hwR s c i)

end PbVerif.Lemmas
