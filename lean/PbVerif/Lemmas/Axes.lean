import Mathlib.Algebra.Order.Field.Rat
import PbVerif.Lemmas.ListAux
import PbVerif.Model.Axes
/-! The `individual_axes` planner (C20).  Arrays are compared entry by entry: `RectMN` gives the shape, `ent` the
reads, `mat_ext` the extensionality; every operation of the model gets a shape lemma and an entry lemma. -/
namespace PbVerif.Lemmas
open PbVerif.Axes

def RectMN (A : Mat) (m n : Nat) : Prop := A.length = m ∧ ∀ r ∈ A, r.length = n

section
variable {A B : Mat} {m n : Nat}

theorem rect_row (h : RectMN A m n) {i : Nat} (hi : i < m) : (A.getD i []).length = n :=
  h.2 _ (getD_mem [] (h.1 ▸ hi))

theorem mat_ext (hA : RectMN A m n) (hB : RectMN B m n)
    (h : ∀ i, i < m → ∀ j, j < n → ent A i j = ent B i j) : A = B :=
  ext_getD [] (hA.1.trans hB.1.symm) fun i hi =>
    have hi' : i < m := hA.1 ▸ hi
    ext_getD 0 ((rect_row hA hi').trans (rect_row hB hi').symm) fun j hj => h i hi' j (rect_row hA hi' ▸ hj)

theorem rect_table {α β : Type} (L : List α) (M : List β) (g : α → β → Rat) :
    RectMN (L.map fun i => M.map (g i)) L.length M.length :=
  ⟨List.length_map _, fun r hr => by obtain ⟨i, _, rfl⟩ := List.mem_map.mp hr; exact List.length_map _⟩

def zip2 (f : Rat → Rat → Rat) (A B : Mat) : Mat := List.zipWith (List.zipWith f) A B

theorem ent_zip2 (f : Rat → Rat → Rat) (hA : RectMN A m n) (hB : RectMN B m n) {i j : Nat} (hi : i < m) (hj : j < n) :
    ent (zip2 f A B) i j = f (ent A i j) (ent B i j) := by
  rw [ent, zip2, getD_zipWith_of_lt _ [] [] [] (hA.1 ▸ hi) (hB.1 ▸ hi),
    getD_zipWith_of_lt _ 0 0 0 (rect_row hA hi ▸ hj) (rect_row hB hi ▸ hj)]
  rfl

theorem rectMN_zip2 (f : Rat → Rat → Rat) (hA : RectMN A m n) (hB : RectMN B m n) : RectMN (zip2 f A B) m n := by
  have hl : (zip2 f A B).length = m := by rw [zip2, List.length_zipWith, hA.1, hB.1, Nat.min_self]
  refine ⟨hl, fun r hr => ?_⟩
  obtain ⟨i, hi, rfl⟩ := List.mem_iff_getElem.mp hr
  rw [hl] at hi
  rw [← getD_of_lt [] (hl.symm ▸ hi), zip2, getD_zipWith_of_lt _ [] [] [] (hA.1 ▸ hi) (hB.1 ▸ hi), List.length_zipWith,
    rect_row hA hi, rect_row hB hi, Nat.min_self]

theorem sub_eq_zip2 (A B : Mat) : sub A B = zip2 (· - ·) A B := rfl
theorem add_eq_zip2 (A B : Mat) : add A B = zip2 (· + ·) A B := rfl

theorem rect_zeros (m n : Nat) : RectMN (zeros m n) m n :=
  ⟨List.length_replicate, fun r hr => by rw [List.eq_of_mem_replicate hr, List.length_replicate]⟩

theorem ent_zeros (m n i j : Nat) : ent (zeros m n) i j = 0 := ent_zero_rows m n i j

theorem sub_zeros (hA : RectMN A m n) : sub A (zeros m n) = A :=
  mat_ext (rectMN_zip2 _ hA (rect_zeros m n)) hA fun i hi j hj => by
    rw [sub_eq_zip2, ent_zip2 _ hA (rect_zeros m n) hi hj, ent_zeros, sub_zero]

theorem zeros_add (hA : RectMN A m n) : add (zeros m n) A = A :=
  mat_ext (rectMN_zip2 _ (rect_zeros m n) hA) hA fun i hi j hj => by
    rw [add_eq_zip2, ent_zip2 _ (rect_zeros m n) hA hi hj, ent_zeros, zero_add]

theorem col_length (A : Mat) (j : Nat) : (col A j).length = A.length := List.length_map _

theorem col_getD (A : Mat) (j i : Nat) : (col A j).getD i 0 = ent A i j := getD_map _ i rfl

theorem ncols_rect (hA : RectMN A m n) (hm : 0 < m) : ncols A = n := by
  have := rect_row hA hm
  cases A with
  | nil => exact absurd hA.1.symm (Nat.ne_of_gt hm)
  | cons r t => exact this

/-- the number of rows of the output is read off the first fit, hence `hn` and `hf` (which holds of every 1-D method of the library: C01) -/
theorem alongAxis0_eq (f : List Rat → List Rat) (hA : RectMN A m n) (hm : 0 < m) (hn : 0 < n) (hf : LenPres f) :
    alongAxis f 0 A = (List.range m).map fun i => (List.range n).map fun j => (f (col A j)).getD i 0 := by
  obtain ⟨k, rfl⟩ : ∃ k, n = k + 1 := ⟨n - 1, (Nat.sub_add_cancel hn).symm⟩
  have hhead : (((List.range (k + 1)).map fun j => f (col A j)).headD []).length = m := by
    rw [List.range_succ_eq_map, List.map_cons, List.headD_cons, hf, col_length, hA.1]
  simp only [alongAxis, if_true, ncols_rect hA hm, hhead, List.map_map, Function.comp_def]

theorem rect_alongAxis (f : List Rat → List Rat) (axis : Nat) (hA : RectMN A m n) (hm : 0 < m) (hn : 0 < n) (hf : LenPres f) :
    RectMN (alongAxis f axis A) m n := by
  by_cases ha : axis = 0
  · subst ha
    rw [alongAxis0_eq f hA hm hn hf]
    simpa only [List.length_range] using rect_table (List.range m) (List.range n) _
  · rw [alongAxis, if_neg ha]
    refine ⟨(List.length_map _).trans hA.1, fun r hr => ?_⟩
    obtain ⟨a, ha', rfl⟩ := List.mem_map.mp hr
    rw [hf a, hA.2 a ha']

theorem ent_alongAxis0 (f : List Rat → List Rat) (hA : RectMN A m n) (hm : 0 < m) (hn : 0 < n) (hf : LenPres f)
    {i j : Nat} (hi : i < m) (hj : j < n) : ent (alongAxis f 0 A) i j = (f (col A j)).getD i 0 := by
  rw [alongAxis0_eq f hA hm hn hf, ent, getD_range_map _ _ hi, getD_range_map _ _ hj]

theorem ent_alongAxis1 (f : List Rat → List Rat) {axis : Nat} (ha : axis ≠ 0) (hA : A.length = m) {i : Nat} (j : Nat) (hi : i < m) :
    ent (alongAxis f axis A) i j = (f (A.getD i [])).getD j 0 := by
  rw [alongAxis, if_neg ha, ent, getD_map_of_lt _ [] _ (hA ▸ hi)]

theorem rect_take2 (p s : List Nat) (A : Mat) : RectMN (take2 p s A) p.length s.length := rect_table p s _

theorem row_take2 (p s : List Nat) (A : Mat) {a : Nat} (ha : a < p.length) :
    (take2 p s A).getD a [] = take1 s (A.getD (p.getD a 0) []) := getD_map_of_lt _ 0 [] ha

theorem take1_getD (p : List Nat) (v : List Rat) {a : Nat} (ha : a < p.length) : (take1 p v).getD a 0 = v.getD (p.getD a 0) 0 :=
  getD_map_of_lt _ 0 0 ha

theorem ent_take2 (p s : List Nat) (A : Mat) {a b : Nat} (ha : a < p.length) (hb : b < s.length) :
    ent (take2 p s A) a b = ent A (p.getD a 0) (s.getD b 0) := by
  rw [ent, row_take2 p s A ha, take1_getD s _ hb, ent]

theorem take2_zip2 (f : Rat → Rat → Rat) (p s : List Nat) (hA : RectMN A m n) (hB : RectMN B m n)
    (hpm : ∀ i ∈ p, i < m) (hsn : ∀ j ∈ s, j < n) :
    zip2 f (take2 p s A) (take2 p s B) = take2 p s (zip2 f A B) :=
  mat_ext (rectMN_zip2 _ (rect_take2 p s A) (rect_take2 p s B)) (rect_take2 p s _) fun a ha b hb => by
    rw [ent_zip2 _ (rect_take2 p s A) (rect_take2 p s B) ha hb, ent_take2 _ _ _ ha hb, ent_take2 _ _ _ ha hb,
      ent_take2 _ _ _ ha hb, ent_zip2 f hA hB (hpm _ (getD_mem 0 ha)) (hsn _ (getD_mem 0 hb))]

theorem take2_zeros (p s : List Nat) (m n : Nat) : take2 p s (zeros m n) = zeros p.length s.length :=
  mat_ext (rect_take2 p s _) (rect_zeros _ _) fun a ha b hb => by
    rw [ent_take2 _ _ _ ha hb, ent_zeros, ent_zeros]

theorem col_take2 (p s : List Nat) (A : Mat) {b : Nat} (hb : b < s.length) :
    col (take2 p s A) b = take1 p (col A (s.getD b 0)) :=
  ext_getD 0 (by rw [col_length, (rect_take2 p s A).1, take1, List.length_map]) fun a ha => by
    have ha' : a < p.length := by rwa [col_length, (rect_take2 p s A).1] at ha
    rw [col_getD, take1_getD p _ ha', col_getD, ent_take2 _ _ _ ha' hb]

/-- `hcomm`: the 1-D function commutes with the re-ordering of the axis it works along -/
theorem alongAxis_take2 (g g' : List Rat → List Rat) (hg : LenPres g) (hg' : LenPres g') (axis : Nat) (p s : List Nat) {R : Mat}
    (hR : RectMN R m n) (hm : 0 < m) (hn : 0 < n) (hp : p.length = m) (hs : s.length = n)
    (hpm : ∀ i ∈ p, i < m) (hsn : ∀ j ∈ s, j < n)
    (hcomm : if axis = 0 then ∀ v, v.length = m → g' (take1 p v) = take1 p (g v)
             else ∀ v, v.length = n → g' (take1 s v) = take1 s (g v)) :
    alongAxis g' axis (take2 p s R) = take2 p s (alongAxis g axis R) := by
  have hT : RectMN (take2 p s R) m n := hp ▸ hs ▸ rect_take2 p s R
  have hRr : RectMN (take2 p s (alongAxis g axis R)) m n := hp ▸ hs ▸ rect_take2 p s _
  refine mat_ext (rect_alongAxis g' axis hT hm hn hg') hRr fun a ha b hb => ?_
  have ha' : a < p.length := hp ▸ ha
  have hb' : b < s.length := hs ▸ hb
  have hpa := hpm _ (getD_mem 0 ha')
  have hsb := hsn _ (getD_mem 0 hb')
  rw [ent_take2 _ _ _ ha' hb']
  by_cases hax : axis = 0
  · subst hax
    rw [if_pos rfl] at hcomm
    rw [ent_alongAxis0 g' hT hm hn hg' ha hb, ent_alongAxis0 g hR hm hn hg hpa hsb,
      col_take2 p s R hb', hcomm _ (by rw [col_length, hR.1]), take1_getD p _ ha']
  · rw [if_neg hax] at hcomm
    rw [ent_alongAxis1 g' hax hT.1 b ha, ent_alongAxis1 g hax hR.1 _ hpa,
      row_take2 p s R ha', hcomm _ (rect_row hR hpa), take1_getD s _ hb']

end

/-! ### the loop -/
def LenPres1 {α : Type} (fit : Fit1 α) : Prop := ∀ c k v, (fit c k v).length = v.length

/-- `partial` in the loop of `individual_axes` -/
def partOf {α : Type} (fit : Fit1 α) (x z : List Rat) (data : Mat) (b : Mat) (s : Step α) : Mat :=
  alongAxis (fit (pick x z s.coord) s.kw) s.axis (sub data b)

def ShapeInv (m n : Nat) (acc : Mat × List (String × Mat)) : Prop := RectMN acc.1 m n ∧ ∀ kp ∈ acc.2, RectMN kp.2 m n

def reorder (p s : List Nat) (acc : Mat × List (String × Mat)) : Mat × List (String × Mat) :=
  (take2 p s acc.1, acc.2.map fun kp => (kp.1, take2 p s kp.2))

/-- what C02 gives for every 1-D method -/
def Equivariant {α : Type} (fit : Fit1 α) (p : List Nat) (c : List Rat) : Prop :=
  ∀ k v, v.length = p.length → fit (take1 p c) k (take1 p v) = take1 p (fit c k v)

section loop
variable {α : Type} (fit : Fit1 α) (x z : List Rat) {data : Mat} {m n : Nat}

theorem stepRun_eq (data : Mat) (acc : Mat × List (String × Mat)) (s : Step α) :
    stepRun fit x z data acc s = (add acc.1 (partOf fit x z data acc.1 s), acc.2 ++ [(s.key, partOf fit x z data acc.1 s)]) := rfl

theorem runSteps_init (hD : RectMN data m n) (hm : 0 < m) : zeros data.length (ncols data) = zeros m n := by
  rw [hD.1, ncols_rect hD hm]

variable (hf : LenPres1 fit) (hD : RectMN data m n) (hm : 0 < m) (hn : 0 < n)
include hf hD hm hn

theorem rect_partOf {b : Mat} (hb : RectMN b m n) (s : Step α) : RectMN (partOf fit x z data b s) m n :=
  rect_alongAxis _ _ (rectMN_zip2 _ hD hb) hm hn (hf _ _)

theorem stepRun_shape {acc : Mat × List (String × Mat)} (hacc : ShapeInv m n acc) (s : Step α) :
    ShapeInv m n (stepRun fit x z data acc s) := by
  have hp := rect_partOf fit x z hf hD hm hn hacc.1 s
  refine ⟨rectMN_zip2 _ hacc.1 hp, fun kp hkp => ?_⟩
  rcases List.mem_append.mp hkp with h | h
  · exact hacc.2 kp h
  · rw [List.mem_singleton.mp h]
    exact hp

theorem runSteps_shape (steps : List (Step α)) : ShapeInv m n (runSteps fit x z data steps) := by
  rw [runSteps, runSteps_init hD hm]
  exact foldl_keeps (ShapeInv m n) _ steps (fun _ s hacc => stepRun_shape fit x z hf hD hm hn hacc s) _
    ⟨rect_zeros m n, fun _ h => absurd h List.not_mem_nil⟩

theorem runSteps_one (s0 : Step α) :
    runSteps fit x z data [s0] = (partOf fit x z data (zeros m n) s0, [(s0.key, partOf fit x z data (zeros m n) s0)]) := by
  have hP0 := rect_partOf fit x z hf hD hm hn (rect_zeros m n) s0
  simp only [runSteps, List.foldl_cons, List.foldl_nil, stepRun_eq, runSteps_init hD hm, zeros_add hP0, List.nil_append]

/-- the second step sees `data - first baseline`, which is what a fresh single-step run on that residual sees -/
theorem runSteps_two (s0 s1 : Step α) :
    runSteps fit x z data [s0, s1] =
      (add (runSteps fit x z data [s0]).1 (runSteps fit x z (sub data (runSteps fit x z data [s0]).1) [s1]).1,
        (runSteps fit x z data [s0]).2 ++ (runSteps fit x z (sub data (runSteps fit x z data [s0]).1) [s1]).2) := by
  have hD1 : RectMN (sub data (runSteps fit x z data [s0]).1) m n := rectMN_zip2 _ hD (runSteps_shape fit x z hf hD hm hn [s0]).1
  -- the fresh run starts from zeros (`sub_zeros`); the left side unfolds to the second step applied to the one-step run
  rw [runSteps_one fit x z hf hD1 hm hn s1, partOf, sub_zeros hD1]
  rfl

variable {p s : List Nat} (hp : p.length = m) (hs : s.length = n) (hpm : ∀ i ∈ p, i < m) (hsn : ∀ j ∈ s, j < n)
  (hx : Equivariant fit p x) (hz : Equivariant fit s z)
include hp hs hpm hsn hx hz

theorem stepRun_take2 {acc : Mat × List (String × Mat)} (hacc : RectMN acc.1 m n) (st : Step α) (hst : st.coord = coordOf st.axis) :
    stepRun fit (take1 p x) (take1 s z) (take2 p s data) (reorder p s acc) st = reorder p s (stepRun fit x z data acc st) := by
  have hP := rect_partOf fit x z hf hD hm hn hacc st
  have hpart : partOf fit (take1 p x) (take1 s z) (take2 p s data) (take2 p s acc.1) st = take2 p s (partOf fit x z data acc.1 st) := by
    rw [partOf, sub_eq_zip2, take2_zip2 _ p s hD hacc hpm hsn]
    refine alongAxis_take2 _ _ (hf _ _) (hf _ _) st.axis p s (rectMN_zip2 _ hD hacc) hm hn hp hs hpm hsn ?_
    rw [hst, coordOf]
    split
    · exact fun v hv => hx st.kw v (hv.trans hp.symm)
    · exact fun v hv => hz st.kw v (hv.trans hs.symm)
  rw [stepRun_eq, stepRun_eq]
  simp only [reorder, List.map_append, List.map_cons, List.map_nil]
  rw [hpart, add_eq_zip2, take2_zip2 _ p s hacc hP hpm hsn]
  rfl

theorem foldl_stepRun_take2 (steps : List (Step α)) (hsteps : ∀ st ∈ steps, st.coord = coordOf st.axis)
    {acc : Mat × List (String × Mat)} (hacc : ShapeInv m n acc) :
    steps.foldl (stepRun fit (take1 p x) (take1 s z) (take2 p s data)) (reorder p s acc) =
      reorder p s (steps.foldl (stepRun fit x z data) acc) := by
  induction steps generalizing acc with
  | nil => rfl
  | cons st t ih =>
    rw [List.foldl_cons, List.foldl_cons,
      stepRun_take2 fit x z hf hD hm hn hp hs hpm hsn hx hz hacc.1 st (hsteps st List.mem_cons_self)]
    exact ih (fun q hq => hsteps q (List.mem_cons_of_mem _ hq)) (stepRun_shape fit x z hf hD hm hn hacc st)

end loop

theorem pairKwargs_seq {α : Type} (empty : α) (num : Nat) (l : List α) (h : 2 ≤ l.length) :
    pairKwargs empty num (.seq l) = if l.length ≠ num then .error .valueError else .ok l := by
  rw [pairKwargs, if_neg (Nat.ne_of_gt (Nat.lt_of_lt_of_le Nat.zero_lt_two h)), if_neg (Nat.ne_of_gt h)]

theorem pairKwargs_length {α : Type} (empty : α) (num : Nat) (kw : KwArg α) (kws : List α) (h : pairKwargs empty num kw = .ok kws) :
    kws.length = num := by
  cases kw with
  | none => cases h; exact List.length_replicate
  | dict d => cases h; exact List.length_replicate
  | seq l =>
    by_cases h0 : l.length = 0
    · rw [pairKwargs, if_pos h0] at h; cases h; exact List.length_replicate
    by_cases h1 : l.length = 1
    · rw [pairKwargs, if_neg h0, if_pos h1] at h; cases h; exact List.length_replicate
    have h2 : 2 ≤ l.length := Nat.succ_le_of_lt (Nat.lt_of_le_of_ne (Nat.pos_of_ne_zero h0) (Ne.symm h1))
    rw [pairKwargs_seq _ _ _ h2] at h
    split at h
    · cases h
    · cases h; exact Decidable.not_not.mp ‹_›

theorem individualAxesPlan_eq {α : Type} {empty : α} {axes : AxesArg} {kw : KwArg α} {ax : List Nat} {kws : List α}
    (ha : normAxes axes = .ok ax) (hk : pairKwargs empty ax.length kw = .ok kws) :
    individualAxesPlan empty axes kw = .ok ((ax.zip kws).map fun p => ⟨p.1, coordOf p.1, p.2, keyOf p.1⟩) := by
  simp only [individualAxesPlan, ha, hk]

theorem individualAxesPlan_ok {α : Type} {empty : α} {axes : AxesArg} {kw : KwArg α} {steps : List (Step α)}
    (h : individualAxesPlan empty axes kw = .ok steps) :
    ∃ ax kws, normAxes axes = .ok ax ∧ pairKwargs empty ax.length kw = .ok kws ∧
      steps = (ax.zip kws).map fun p => ⟨p.1, coordOf p.1, p.2, keyOf p.1⟩ := by
  unfold individualAxesPlan at h
  split at h
  · cases h
  · split at h
    · cases h
    · cases h
      exact ⟨_, _, ‹_›, ‹_›, rfl⟩

theorem individualAxesPlan_coords {α : Type} {empty : α} {axes : AxesArg} {kw : KwArg α} {steps : List (Step α)}
    (h : individualAxesPlan empty axes kw = .ok steps) : ∀ st ∈ steps, st.coord = coordOf st.axis ∧ st.key = keyOf st.axis := by
  obtain ⟨ax, kws, -, -, rfl⟩ := individualAxesPlan_ok h
  intro st hst
  obtain ⟨pr, -, rfl⟩ := List.mem_map.mp hst
  exact ⟨rfl, rfl⟩

end PbVerif.Lemmas
