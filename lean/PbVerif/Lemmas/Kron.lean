import Mathlib.Data.Matrix.Mul
import Mathlib.Tactic.Abel
import PbVerif.Lemmas.SumAux
import PbVerif.Model.Kron
/-! Lemmas for C20 (`Model/Kron.lean`): the face-splitting product entry by entry, `_make_btwb` against the Kronecker
normal matrix, and the two eigenbasis statements over Mathlib matrices. -/
namespace PbVerif.Lemmas
open PbVerif.Kron

def Rect (M : Mat) (c : Nat) : Prop := ∀ row ∈ M, row.length = c

theorem Kron.sumL_eq_sum (l : List Rat) : sumL l = l.sum := by
  rw [sumL, foldl_add_eq_sum, zero_add]

theorem sumL_congr (l : List Nat) (f g : Nat → Rat) (h : ∀ i ∈ l, f i = g i) :
    sumL (l.map f) = sumL (l.map g) := by
  rw [List.map_congr_left h]

theorem ncols_eq (B : Mat) (a : Nat) (hB : Rect B a) (h0 : 0 < B.length) : B.ncols = a := by
  rw [Mat.ncols, getD_of_lt _ h0]
  exact hB _ (List.getElem_mem h0)

theorem faceSplit_at (B : Mat) (a m p : Nat) (hB : Rect B a) (hm : m < B.length) (hp : p < a * a) :
    (faceSplit B).at m p = B.at m (p / a) * B.at m (p % a) := by
  have hlen : (B.getD m []).length = a := hB _ (getD_mem _ hm)
  rw [Mat.at, faceSplit, getD_map_of_lt _ [] _ hm, hlen, getD_range_map _ _ hp]
  rfl

theorem makeBtwb_eq_kron (Br Bc W : Mat) (a b : Nat) (hr : Rect Br a) (hc : Rect Bc b) (ha : 0 < Br.length) (hb : 0 < Bc.length)
    (r c : Nat) (hr' : r < a * b) (hc' : c < a * b) :
    makeBtwb Br Bc W r c = kronBtwb Br Bc W r c := by
  have hbpos : 0 < b := Nat.pos_of_ne_zero fun h => by simp [h] at hr'
  have h1 : r / b < a := Nat.div_lt_of_lt_mul (by rwa [Nat.mul_comm] at hr')
  have h2 : c / b < a := Nat.div_lt_of_lt_mul (by rwa [Nat.mul_comm] at hc')
  have h3 : r % b < b := Nat.mod_lt _ hbpos
  have h4 : c % b < b := Nat.mod_lt _ hbpos
  unfold makeBtwb kronBtwb gwg kronAt
  simp only [ncols_eq Br a hr ha, ncols_eq Bc b hc hb]
  apply sumL_congr; intro m hm; apply sumL_congr; intro n hn
  rw [List.mem_range] at hm hn
  -- entry (i·a + j, k·b + l) of `G_r' W G_c` with i = r / b, j = c / b, k = r % b, l = c % b
  rw [faceSplit_at Br a m _ hr hm (pair_lt a a _ _ h1 h2), faceSplit_at Bc b n _ hc hn (pair_lt b b _ _ h3 h4),
    (divmod_pair a _ _ h2).1, (divmod_pair a _ _ h2).2, (divmod_pair b _ _ h4).1, (divmod_pair b _ _ h4).2]
  ring

theorem rhs_eq_kron (Br Bc WY : Mat) (r : Nat) : rhsCode Br Bc WY r = kronRhs Br Bc WY r := by
  apply sumL_congr; intro m _; apply sumL_congr; intro n _
  unfold kronAt
  ring

theorem sumL_range_mul (a b : Nat) (f : Nat → Rat) :
    sumL ((List.range (a * b)).map f) =
      sumL ((List.range a).map fun i => sumL ((List.range b).map fun k => f (i * b + k))) := by
  rw [sumL, sumL, foldl_add_range, foldl_add_range, sum_range_mul]
  exact Finset.sum_congr rfl fun i _ => (foldl_add_range b _).symm

open Matrix in
/-- `hL`: `L` is the diagonal `Λ` when the columns of `B` are orthonormal eigenvectors of the full penalty `P`;
nothing else about `B` is used -/
theorem truncated_is_galerkin {N K : Type} [Fintype N] [Fintype K] [DecidableEq N] [DecidableEq K]
    (B : Matrix N K ℚ) (W P : Matrix N N ℚ) (L : Matrix K K ℚ) (y : N → ℚ) (c : K → ℚ)
    (hL : Bᵀ * P * B = L) (hc : (Bᵀ * W * B + L).mulVec c = Bᵀ.mulVec (W.mulVec y)) :
    Bᵀ.mulVec (W.mulVec (y - B.mulVec c) - P.mulVec (B.mulVec c)) = 0 := by
  rw [Matrix.mulVec_sub, Matrix.mulVec_sub, Matrix.mulVec_sub, ← hc, Matrix.add_mulVec, ← hL]
  simp only [Matrix.mulVec_mulVec, Matrix.mul_assoc]
  abel

open Matrix in
theorem full_eigen_eq_direct {N : Type} [Fintype N] [DecidableEq N]
    (B : Matrix N N ℚ) (W P : Matrix N N ℚ) (y v : N → ℚ) (hB : B * Bᵀ = 1)
    (hg : Bᵀ.mulVec (W.mulVec (y - v) - P.mulVec v) = 0) :
    (W + P).mulVec v = W.mulVec y := by
  have h := congrArg B.mulVec hg
  rw [Matrix.mulVec_mulVec, hB, Matrix.one_mulVec, Matrix.mulVec_zero, Matrix.mulVec_sub] at h
  rw [Matrix.add_mulVec]
  exact (sub_eq_zero.mp (by rwa [sub_sub] at h)).symm

end PbVerif.Lemmas
