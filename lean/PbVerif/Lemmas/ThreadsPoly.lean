import PbVerif.Lemmas.ThreadsHeap
/-! C04: the Vandermonde / pseudo-inverse cache under every interleaving of calls with the same polynomial order. -/
namespace PbVerif.Lemmas
open PbVerif.Threads PbVerif.Threads.Poly

/-- threads of one scenario: the same order `k`, each with its own (calc_pinv, number of later uses) -/
def polyThreads (k : Nat) (cfg : List (Bool × Nat)) : List Thr := cfg.map fun c => thread k c.1 c.2

/-! ## the invariant: `G`, `L` and the rely `Ext` of `runSched_rely` -/
namespace PolyInv

/-- published: `poly_order`, the field stored last, already is the common order `k` -/
def Pub (k : Nat) (H : Helper) : Prop := H.po = (k : Int) ∧ H.v = some k ∧ (H.stale = false → H.pinv = some k)

/-- the helper left by the earlier call (order `j0 ≠ k`), before any thread stored `poly_order = k` -/
def Unpub (k j0 : Nat) (H : Helper) : Prop := H.po = (j0 : Int) ∧ j0 ≠ k ∧ (H.v = some j0 ∨ H.v = some k)

def OK (k j0 : Nat) (H : Helper) : Prop := Pub k H ∨ Unpub k j0 H

theorem Pub.v {k : Nat} {H : Helper} (hp : Pub k H) : H.v = some k := hp.2.1

theorem Pub.pinv {k : Nat} {H : Helper} (hp : Pub k H) (hs : H.stale = false) : H.pinv = some k := hp.2.2 hs

structure Evo (k j0 : Nat) (H H' : Helper) : Prop where
  ok : OK k j0 H → OK k j0 H'
  pub : Pub k H → Pub k H'
  v : H.v = some k → H'.v = some k
  pinv : Pub k H → H.pinv = some k → H'.pinv = some k
  st : Pub k H ∨ H.stale = true → Pub k H' ∨ H'.stale = true

theorem Evo.refl (k j0 : Nat) (H : Helper) : Evo k j0 H H := ⟨id, id, id, fun _ h => h, id⟩

/- `At`, `RefPub`, `Bound` and the two fields of `Ext` are `Heap.At`, `Heap.RefPub (Pub k)`, `Heap.Bound` and
`Heap.Evolves (Evo …)` unfolded: the `Heap` lemmas apply to them as they stand. -/
def At (s : Sh) (h : Nat) (p : Helper → Prop) : Prop := ∃ H, s.heap[h]? = some H ∧ p H

def RefPub (k : Nat) (s : Sh) : Prop := ∃ r, s.ref = some r ∧ At s r (Pub k)

structure Ext (k j0 : Nat) (s s' : Sh) : Prop where
  heap : ∀ (h : Nat) (H : Helper), s.heap[h]? = some H → ∃ H', s'.heap[h]? = some H' ∧ Evo k j0 H H'
  ref : s'.ref = s.ref ∨ RefPub k s'

theorem Ext.refl (k j0 : Nat) (s : Sh) : Ext k j0 s s := ⟨fun _ H hH => ⟨H, hH, Evo.refl k j0 H⟩, Or.inl rfl⟩

abbrev G (k j0 : Nat) (s : Sh) : Prop := Heap.Good (OK k j0) s.ref s.heap

def Bound (k : Nat) (s : Sh) (h : Nat) : Prop := At s h (fun _ => True) ∧ (RefPub k s ∨ s.ref = some h)

theorem At.stable {k j0 : Nat} {s s' : Sh} {h : Nat} {p : Helper → Prop} (hE : Ext k j0 s s')
    (hp : ∀ H H', Evo k j0 H H' → p H → p H') : At s h p → At s' h p :=
  Heap.At.stable hE.heap hp

theorem At.pub {k j0 : Nat} {s s' : Sh} {h : Nat} (hE : Ext k j0 s s') : At s h (Pub k) → At s' h (Pub k) :=
  At.stable hE fun _ _ e => e.pub

theorem At.pub_pinv {k j0 : Nat} {s s' : Sh} {h : Nat} (hE : Ext k j0 s s') :
    At s h (fun H => Pub k H ∧ H.pinv = some k) → At s' h (fun H => Pub k H ∧ H.pinv = some k) :=
  At.stable hE fun _ _ e hp => ⟨e.pub hp.1, e.pinv hp.1 hp.2⟩

theorem RefPub.stable {k j0 : Nat} {s s' : Sh} (hE : Ext k j0 s s') : RefPub k s → RefPub k s' :=
  Heap.RefPub.stable hE.heap (fun _ _ e => e.pub) hE.ref

theorem Bound.stable {k j0 : Nat} {s s' : Sh} {h : Nat} (hE : Ext k j0 s s') : Bound k s h → Bound k s' h :=
  Heap.Bound.stable hE.heap (fun _ _ e => e.pub) hE.ref

def Got (k : Nat) (t : Thr) : Prop := t.calcPinv = true → t.gotPinv = some (some k)

def Lpc (k j0 : Nat) (s : Sh) (t : Thr) : PC → Prop
  | .start => True
  | .publish => True
  | .bind => s.ref ≠ none
  | .rV0 h => Bound k s h
  | .rPo1 h => Bound k s h
  | .rPo2 h => Bound k s h ∧ (At s h (Pub k) ∨ k < j0)
  | .upV h => Bound k s h
  | .upS h => Bound k s h ∧ At s h (fun H => H.v = some k)
  | .dnR h => Bound k s h ∧ k < j0
  | .dnW h v => Bound k s h ∧ ∃ j', v = some j' ∧ k ≤ j'
  | .dnS h => Bound k s h ∧ At s h (fun H => H.v = some k)
  | .setPo h => Bound k s h ∧ At s h (fun H => H.v = some k ∧ (Pub k H ∨ H.stale = true))
  | .pinvBind => RefPub k s
  | .pStale h => RefPub k s ∧ At s h (Pub k)
  | .pNone h => RefPub k s ∧ At s h (fun H => Pub k H ∧ H.pinv = some k)
  | .pReadV h => RefPub k s ∧ At s h (Pub k)
  | .pWrite h v => RefPub k s ∧ At s h (Pub k) ∧ v = some k
  | .pClear h => RefPub k s ∧ At s h (fun H => Pub k H ∧ H.pinv = some k)
  | .pRet h => RefPub k s ∧ At s h (fun H => Pub k H ∧ H.pinv = some k)
  | .useBind _ => RefPub k s ∧ Got k t
  | .useV h _ => RefPub k s ∧ At s h (Pub k) ∧ Got k t
  | .done => Got k t
  | .error => False

def L (k j0 : Nat) (s : Sh) (t : Thr) : Prop := t.k = k ∧ t.usedOk = true ∧ Lpc k j0 s t t.pc

theorem Lpc.stable {k j0 : Nat} {s s' : Sh} (hE : Ext k j0 s s') (t : Thr) (pc : PC) :
    Lpc k j0 s t pc → Lpc k j0 s' t pc := by
  cases pc <;> simp only [Lpc]
  case start | publish | done | error => exact id
  case bind => exact Heap.ref_ne_none hE.ref
  case rV0 | rPo1 | upV => exact Bound.stable hE
  case rPo2 => exact And.imp (Bound.stable hE) (Or.imp_left (At.pub hE))
  case upS | dnS => exact And.imp (Bound.stable hE) (At.stable hE fun _ _ e => e.v)
  case dnR | dnW => exact And.imp_left (Bound.stable hE)
  case setPo => exact And.imp (Bound.stable hE) (At.stable hE fun _ _ e hp => ⟨e.v hp.1, e.st hp.2⟩)
  case pinvBind => exact RefPub.stable hE
  case pStale | pReadV => exact And.imp (RefPub.stable hE) (At.pub hE)
  case pNone | pClear | pRet => exact And.imp (RefPub.stable hE) (At.pub_pinv hE)
  case pWrite | useV => exact And.imp (RefPub.stable hE) (And.imp_left (At.pub hE))
  case useBind => exact And.imp_left (RefPub.stable hE)

theorem L.stable {k j0 : Nat} {s s' : Sh} (hE : Ext k j0 s s') (t : Thr) : L k j0 s t → L k j0 s' t :=
  fun ⟨a, b, c⟩ => ⟨a, b, Lpc.stable hE t t.pc c⟩

theorem Evo.of_imp {k j0 : Nat} {H H' : Helper} (hpub : Pub k H → Pub k H') (hun : Unpub k j0 H → Unpub k j0 H')
    (hv : H.v = some k → H'.v = some k) (hpi : H.pinv = some k → H'.pinv = some k)
    (hst : H.stale = true → H'.stale = true) : Evo k j0 H H' :=
  ⟨Or.imp hpub hun, hpub, hv, fun _ => hpi, Or.imp hpub hst⟩

theorem Evo.of_pub {k j0 : Nat} {H H' : Helper} (hp : Pub k H') (hpi : H.pinv = some k → H'.pinv = some k) :
    Evo k j0 H H' :=
  ⟨fun _ => Or.inl hp, fun _ => hp, fun _ => hp.v, fun _ => hpi, fun _ => Or.inl hp⟩

theorem Evo.setV (k j0 : Nat) (H : Helper) : Evo k j0 H { H with v := some k } :=
  .of_imp (fun hp => ⟨hp.1, rfl, hp.2.2⟩) (fun hu => ⟨hu.1, hu.2.1, Or.inr rfl⟩) (fun _ => rfl) id id

theorem Evo.setStale (k j0 : Nat) (H : Helper) : Evo k j0 H { H with stale := true } :=
  .of_imp (fun hp => ⟨hp.1, hp.2.1, nofun⟩) id id id fun _ => rfl

theorem Evo.setPinv (k j0 : Nat) (H : Helper) : Evo k j0 H { H with pinv := some k } :=
  .of_imp (fun hp => ⟨hp.1, hp.2.1, fun _ => rfl⟩) id id (fun _ => rfl) id

theorem pinv_of_st {k : Nat} {H : Helper} (hs : Pub k H ∨ H.stale = true) (hst : H.stale = false) : H.pinv = some k :=
  hs.elim (fun hp => hp.pinv hst) fun h => nomatch h.symm.trans hst

/-- `recalc_vandermonde` stores the Vandermonde, then `pinv_stale = True`, then `poly_order`: the last write publishes the helper -/
theorem Pub.setPo (k : Nat) (H : Helper) (hv : H.v = some k) (hs : Pub k H ∨ H.stale = true) :
    Pub k { H with po := (k : Int) } :=
  ⟨rfl, hv, pinv_of_st (H := H) hs⟩

theorem Pub.new (k : Nat) : Pub k ⟨some k, (k : Int), true, none⟩ := ⟨rfl, rfl, fun h => by cases h⟩

theorem Pub.clear (k : Nat) (H : Helper) (hp : Pub k H) (hpi : H.pinv = some k) : Pub k { H with stale := false } :=
  ⟨hp.1, hp.2.1, fun _ => hpi⟩

/-- what `hstep` of `runSched_rely` asks of a step, with rely `Ext` -/
def Post (k j0 : Nat) (s : Sh) (r : Sh × Thr × Option Act) : Prop := Ext k j0 s r.1 ∧ G k j0 r.1 ∧ L k j0 r.1 r.2.1

theorem Post.same {k j0 : Nat} {s : Sh} {t' : Thr} (hG : G k j0 s) (hL : L k j0 s t') {a : Option Act} :
    Post k j0 s (s, t', a) := ⟨Ext.refl k j0 s, hG, hL⟩

theorem Post.upd {k j0 : Nat} {s : Sh} {t' : Thr} {h : Nat} {f : Helper → Helper} (hG : G k j0 s)
    (hE : ∀ H, s.heap[h]? = some H → Evo k j0 H (f H))
    (hL : Ext k j0 s (upd s h f) → L k j0 (upd s h f) t') {a : Option Act} :
    Post k j0 s (upd s h f, t', a) :=
  have hX : Ext k j0 s (Poly.upd s h f) := ⟨Heap.Evolves.modify (Evo.refl k j0) hE, Or.inl rfl⟩
  ⟨hX, hG.modify fun H hH => (hE H hH).ok, hL hX⟩

/-- a read of helper `h`: the thread knows that it exists (`hA`), so the `none` branch `e` is dead -/
theorem Post.read {k j0 : Nat} {s : Sh} {h : Nat} {p : Helper → Prop} (hG : G k j0 s) (hA : At s h p)
    {e : Sh × Thr × Option Act} {f : Helper → Thr} {a : Option Act}
    (hL : ∀ H, s.heap[h]? = some H → p H → L k j0 s (f H)) :
    Post k j0 s (match s.heap[h]? with | none => e | some H => (s, f H, a)) := by
  obtain ⟨H, hH, hp⟩ := hA
  rw [hH]
  exact Post.same hG (hL H hH hp)

theorem L_after {k j0 : Nat} {s' : Sh} (t : Thr) (hk : t.k = k) (hok : t.usedOk = true) (hR : RefPub k s') :
    L k j0 s' { t with pc := afterSetup t } := by
  refine ⟨hk, hok, ?_⟩
  simp only [afterSetup]
  cases hc : t.calcPinv <;> simp [Lpc, hR, Got]

theorem step_post {k j0 : Nat} (s : Sh) (t : Thr) (hG : G k j0 s) (hL : L k j0 s t) : Post k j0 s (step s t) := by
  obtain ⟨k', cp, u, pc, g, ok⟩ := t
  obtain ⟨hk, hok, hpc⟩ := hL
  simp only at hk hok hpc   -- projections of the anonymous constructor, reduced once here instead of in every case
  subst hk hok
  cases pc <;> dsimp only [Lpc] at hpc <;> dsimp only [step]
  case start =>
    cases hr : s.ref with
    | none => exact Post.same hG (by exact ⟨rfl, rfl, trivial⟩)
    | some r => exact Post.same hG (by exact ⟨rfl, rfl, fun h => nomatch hr.symm.trans h⟩)
  case publish =>
    -- the new helper is complete (`Pub.new`) before the one reference write
    have hR : RefPub k' ⟨some s.heap.length, s.heap ++ [_]⟩ := ⟨_, rfl, _, List.getElem?_concat_length, Pub.new k'⟩
    exact ⟨⟨Heap.Evolves.append (Evo.refl k' j0) _ _, Or.inr hR⟩, hG.publish (Or.inl (Pub.new k')),
      L_after ⟨k', cp, u, .publish, g, true⟩ rfl rfl hR⟩
  case bind =>
    cases hr : s.ref with
    | none => exact absurd hr hpc
    | some h => exact Post.same hG (by exact ⟨rfl, rfl, hG.ref h hr, Or.inr hr⟩)
  case rV0 h => exact Post.read hG hpc.1 fun H _ _ => ⟨rfl, rfl, by split <;> exact hpc⟩
  case rPo1 h =>
    refine Post.read hG hpc.1 fun H hH _ => ⟨rfl, rfl, ?_⟩
    split
    · exact hpc
    · rcases hG.ok h H hH with hp | ⟨h1, h2, -⟩
      · exact ⟨hpc, Or.inl ⟨H, hH, hp⟩⟩
      · exact ⟨hpc, Or.inr (by omega)⟩
  case rPo2 h =>
    -- The `elif` is reached only after `poly_order > self.poly_order` came out false.  `hpc.2` is what the thread keeps of that
    -- first read: the field was `k` already (and stays so), or it was the old `j0`, so `k < j0`.  Hence a helper that still
    -- shows `j0` is sliced here, and never falls through to `setPo` with its matrix of order `j0`.
    refine Post.read hG hpc.1.1 fun H hH _ => ⟨rfl, rfl, ?_⟩
    rcases hG.ok h H hH with hp | ⟨h1, h2, -⟩
    · rw [if_neg (by have := hp.1; omega)]
      exact ⟨hpc.1, H, hH, hp.v, Or.inl hp⟩
    · have hlt : k' < j0 := hpc.2.elim (fun hA => by have := (Heap.At.get hA hH).1; omega) id
      rw [if_pos (by omega)]
      exact ⟨hpc.1, hlt⟩
  case upV h =>
    exact Post.upd hG (fun H _ => Evo.setV k' j0 H)
      (fun hE => by exact ⟨rfl, rfl, Bound.stable hE hpc, Heap.At.modify hpc.1 fun _ _ => rfl⟩)
  case upS h | dnS h =>
    exact Post.upd hG (fun H _ => Evo.setStale k' j0 H)
      (fun hE => by exact ⟨rfl, rfl, Bound.stable hE hpc.1, Heap.At.modify hpc.2 fun H hv => ⟨hv, Or.inr rfl⟩⟩)
  case dnR h =>
    refine Post.read hG hpc.1.1 fun H hH _ => ⟨rfl, rfl, hpc.1, ?_⟩
    rcases hG.ok h H hH with hp | ⟨-, -, hv | hv⟩
    · exact ⟨k', hp.v, Nat.le_refl _⟩
    · exact ⟨j0, hv, Nat.le_of_lt hpc.2⟩
    · exact ⟨k', hv, Nat.le_refl _⟩
  case dnW h v =>
    obtain ⟨hB, j', rfl, hle⟩ := hpc
    simp only [Nat.min_eq_right hle]
    exact Post.upd hG (fun H _ => Evo.setV k' j0 H)
      (fun hE => by exact ⟨rfl, rfl, Bound.stable hE hB, Heap.At.modify hB.1 fun _ _ => rfl⟩)
  case setPo h =>
    obtain ⟨hB, hA⟩ := hpc
    have hp := fun H (hp : _ ∧ _) => Pub.setPo k' H hp.1 hp.2
    exact Post.upd hG (fun H hH => Evo.of_pub (hp H (Heap.At.get hA hH :)) id) fun hE =>
      L_after ⟨k', cp, u, .setPo h, g, true⟩ rfl rfl (Heap.Bound.refPub (Bound.stable hE hB) (Heap.At.modify hA hp))
  case pinvBind =>
    obtain ⟨r, hr, hA⟩ := hpc
    rw [hr]
    exact Post.same hG (by exact ⟨rfl, rfl, ⟨r, hr, hA⟩, hA⟩)
  case pStale h =>
    refine Post.read hG hpc.2 fun H hH hp => ⟨rfl, rfl, ?_⟩
    split
    · exact hpc
    · rename_i hs
      exact ⟨hpc.1, H, hH, hp, hp.pinv (eq_false_of_ne_true hs)⟩
  case pNone h =>
    refine Post.read hG hpc.2 fun H hH hp => ⟨rfl, rfl, ?_⟩
    split
    · exact ⟨hpc.1, H, hH, hp.1⟩
    · exact hpc
  case pReadV h => exact Post.read hG hpc.2 fun H hH hp => ⟨rfl, rfl, hpc.1, ⟨H, hH, hp⟩, hp.v⟩
  case pWrite h v =>
    obtain ⟨hR, hA, rfl⟩ := hpc
    exact Post.upd hG (fun H _ => Evo.setPinv k' j0 H)
      (fun hE => by exact ⟨rfl, rfl, RefPub.stable hE hR,
        Heap.At.modify hA fun H hp => ⟨(Evo.setPinv k' j0 H).pub hp, rfl⟩⟩)
  case pClear h =>
    obtain ⟨hR, hA⟩ := hpc
    exact Post.upd hG (fun H hH => Evo.of_pub (Pub.clear k' H (Heap.At.get hA hH).1 (Heap.At.get hA hH).2) id)
      (fun hE => by exact ⟨rfl, rfl, RefPub.stable hE hR, At.pub_pinv hE hA⟩)
  case pRet h => exact Post.read hG hpc.2 fun H _ hp => ⟨rfl, rfl, hpc.1, fun _ => congrArg some hp.2⟩
  case useBind n =>
    obtain ⟨hR, hg⟩ := hpc
    cases n with
    | zero => exact Post.same hG (by exact ⟨rfl, rfl, hg⟩)
    | succ n =>
      obtain ⟨r, hr, hA⟩ := hR
      simp only [hr]
      exact Post.same hG (by exact ⟨rfl, rfl, ⟨r, hr, hA⟩, hA, hg⟩)
  case useV h n => exact Post.read hG hpc.2.1 fun H _ hp => ⟨rfl, decide_eq_true hp.v, hpc.1, hpc.2.2⟩
  case done => exact Post.same hG (by exact ⟨rfl, rfl, hpc⟩)

theorem L.serial {k j0 : Nat} {s : Sh} {t : Thr} (hL : L k j0 s t) : t.serialOutcome := by
  obtain ⟨rfl, hok, hpc⟩ := hL
  exact ⟨fun h => by rw [h] at hpc; exact hpc, hok, fun h hc => by rw [h] at hpc; exact hpc hc⟩

/-- from ANY state whose helpers are `OK`: cold, warm, or left by an earlier concurrent run -/
theorem safe_of_init (k j0 : Nat) (s : Sh) (hG : G k j0 s) (cfg : List (Bool × Nat)) (sched : List Nat) :
    ∀ t ∈ (runSched proto s (cfg.map fun c => thread k c.1 c.2) sched).2, t.serialOutcome :=
  runSched_safe proto (G k j0) (L k j0) (Ext k j0) _ (fun _ _ u hE => L.stable hE u) step_post (fun _ _ h => h.serial) s
    (cfg.map fun c => thread k c.1 c.2) hG
    (fun t ht => by obtain ⟨c, -, rfl⟩ := List.mem_map.1 ht; exact ⟨rfl, rfl, trivial⟩) sched

theorem G_warm (j k : Nat) (pinvDone : Bool) : G k j (warm j pinvDone) := by
  refine Heap.Good.nil.publish ?_
  by_cases hjk : j = k
  · subst hjk
    exact Or.inl ⟨rfl, rfl, by cases pinvDone <;> simp⟩
  · exact Or.inr ⟨rfl, hjk, Or.inl rfl⟩

end PolyInv

/-! ## termination -/

/-- own steps left on the longest path to `done`: 9 for the setup (`start` … `setPo`), 7 for the pseudo-inverse, 2 for each use,
1 to finish -/
def prank (t : Thr) : Nat :=
  match t.pc with
  | .start => 2*t.uses + 17
  | .publish => 2*t.uses + 9
  | .bind => 2*t.uses + 16
  | .rV0 _ => 2*t.uses + 15
  | .rPo1 _ => 2*t.uses + 14
  | .rPo2 _ => 2*t.uses + 13
  | .upV _ => 2*t.uses + 11
  | .upS _ => 2*t.uses + 10
  | .dnR _ => 2*t.uses + 12
  | .dnW _ _ => 2*t.uses + 11
  | .dnS _ => 2*t.uses + 10
  | .setPo _ => 2*t.uses + 9
  | .pinvBind => 2*t.uses + 8
  | .pStale _ => 2*t.uses + 7
  | .pNone _ => 2*t.uses + 6
  | .pReadV _ => 2*t.uses + 5
  | .pWrite _ _ => 2*t.uses + 4
  | .pClear _ => 2*t.uses + 3
  | .pRet _ => 2*t.uses + 2
  | .useBind n => 2*n + 1
  | .useV _ n => 2*n + 2
  | .done => 0
  | .error => 0

theorem prank_step (s : Sh) (t : Thr) : prank (step s t).2.1 ≤ prank t - 1 := by
  obtain ⟨k, cp, u, pc, g, ok⟩ := t
  cases pc
  case useBind n => cases n <;> dsimp only [step] <;> (try split) <;> simp [prank] <;> omega
  all_goals dsimp only [step, afterSetup] <;> (repeat' split) <;> simp [prank]

theorem prank_zero (t : Thr) (h : prank t = 0) : t.pc = .done ∨ t.pc = .error := by
  obtain ⟨k, cp, u, pc, g, ok⟩ := t
  cases pc <;> simp [prank] at h ⊢

theorem poly_rank_terminates (s : Sh) (ts : List Thr) (sched : List Nat) (i : Nat) (t : Thr) (h0 : ts[i]? = some t)
    (hc : prank t ≤ sched.count i) :
    ∃ t', (runSched proto s ts sched).2[i]? = some t' ∧ (t'.pc = .done ∨ t'.pc = .error) :=
  let ⟨t', h1, h2⟩ := runSched_rank proto prank prank_step i sched s ts t h0 hc
  ⟨t', h1, prank_zero t' h2⟩

end PbVerif.Lemmas
