import PbVerif.Model.Threads
/-! C04: what holds after every schedule of `runSched` — a global invariant, the rely/guarantee rule, a rank for termination. -/
namespace PbVerif.Lemmas
open PbVerif.Threads

theorem runSched_inv {σ τ α : Type} (P : Proto σ τ α) (Inv : σ → List τ → Prop)
    (hstep : ∀ s ts i t, Inv s ts → ts[i]? = some t → Inv (P.step s t).1 (ts.set i (P.step s t).2.1))
    (s : σ) (ts : List τ) (h0 : Inv s ts) (sched : List Nat) :
    Inv (runSched P s ts sched).1 (runSched P s ts sched).2 := by
  fun_induction runSched P s ts sched with
  | case1 => exact h0
  | case2 _ _ _ _ _ ih => exact ih h0
  | case3 s ts i _ t hi _ ih => exact ih (hstep s ts i t h0 hi)

theorem runSched_length {σ τ α : Type} (P : Proto σ τ α) (s : σ) (ts : List τ) (sched : List Nat) :
    (runSched P s ts sched).2.length = ts.length :=
  runSched_inv P (fun _ ts' => ts'.length = ts.length) (fun _ _ _ _ h _ => List.length_set.trans h) s ts rfl sched

/-- rely/guarantee: `G` on the shared state, `L` per thread, `R` the rely.  Every step stays within `R` and `L` is stable under
`R`, so a step is checked against the stepping thread only (`hstep`). -/
theorem runSched_rely {σ τ α : Type} (P : Proto σ τ α) (G : σ → Prop) (L : σ → τ → Prop) (R : σ → σ → Prop)
    (hstab : ∀ s s' u, R s s' → L s u → L s' u)
    (hstep : ∀ s t, G s → L s t → R s (P.step s t).1 ∧ G (P.step s t).1 ∧ L (P.step s t).1 (P.step s t).2.1)
    (s : σ) (ts : List τ) (hG : G s) (hL : ∀ t ∈ ts, L s t) (sched : List Nat) :
    G (runSched P s ts sched).1 ∧ ∀ t ∈ (runSched P s ts sched).2, L (runSched P s ts sched).1 t := by
  refine runSched_inv P (fun s ts => G s ∧ ∀ t ∈ ts, L s t) ?_ s ts ⟨hG, hL⟩ sched
  intro s ts i t ⟨hg, hl⟩ hi
  obtain ⟨hR, hg', hl'⟩ := hstep s t hg (hl t (List.mem_of_getElem? hi))
  refine ⟨hg', fun u hu => ?_⟩
  rcases List.mem_or_eq_of_mem_set hu with h | rfl
  · exact hstab _ _ u hR (hl u h)
  · exact hl'

theorem runSched_safe {σ τ α : Type} (P : Proto σ τ α) (G : σ → Prop) (L : σ → τ → Prop) (R : σ → σ → Prop) (Q : τ → Prop)
    (hstab : ∀ s s' u, R s s' → L s u → L s' u)
    (hstep : ∀ s t, G s → L s t → R s (P.step s t).1 ∧ G (P.step s t).1 ∧ L (P.step s t).1 (P.step s t).2.1)
    (hQ : ∀ s t, L s t → Q t) (s : σ) (ts : List τ) (hG : G s) (hL : ∀ t ∈ ts, L s t) (sched : List Nat) :
    ∀ t ∈ (runSched P s ts sched).2, Q t :=
  fun t ht => hQ _ t ((runSched_rely P G L R hstab hstep s ts hG hL sched).2 t ht)

/-- `rank t - 1` is truncated: a thread of rank 0 stays there (finished threads stutter) -/
theorem runSched_rank {σ τ α : Type} (P : Proto σ τ α) (rank : τ → Nat)
    (hstep : ∀ s t, rank (P.step s t).2.1 ≤ rank t - 1) (i : Nat) (sched : List Nat) :
    ∀ (s : σ) (ts : List τ) (t : τ), ts[i]? = some t → rank t ≤ sched.count i →
      ∃ t', (runSched P s ts sched).2[i]? = some t' ∧ rank t' = 0 := by
  induction sched with
  | nil => intro s ts t h0 hc; exact ⟨t, h0, by simpa using hc⟩
  | cons j rest ih =>
    intro s ts t h0 hc
    unfold runSched
    by_cases hji : j = i
    · subst hji
      rw [h0]
      rw [List.count_cons_self] at hc
      have hr := hstep s t
      exact ih _ _ _ (by rw [List.getElem?_set_self (List.getElem?_eq_some_iff.1 h0).1]) (by omega)
    · rw [List.count_cons_of_ne hji] at hc
      cases hj : ts[j]? with
      | none => exact ih s ts t h0 hc
      | some u => exact ih _ _ t (by rw [List.getElem?_set_ne hji]; exact h0) hc

end PbVerif.Lemmas
