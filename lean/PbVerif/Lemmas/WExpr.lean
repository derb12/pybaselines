import Mathlib.Algebra.Order.Ring.Rat
import PbVerif.Gen.WeightExprs
import PbVerif.Lemmas.Weighting
import PbVerif.Lemmas.SimpAttrs
/-! Lemmas for C09, Route A (see `Props/C09`): the simp set `wexpr`, by which a weight expression translated from
`_weighting.py` (`Gen/WeightExprs.lean`) evaluates to the per-point function of the hand model (`Model/Weighting.lean`). -/
namespace PbVerif.Lemmas
open PbVerif.Weighting PbVerif.WExpr PbVerif.Gen

variable {α : Type} [Field α] [LinearOrder α] [T : Transc α]

omit [Field α] T in
theorem pmax_eq_max (a b : α) : pmax a b = max a b := (max_def_lt a b).symm
omit [Field α] T in
theorem pmin_eq_min (a b : α) : pmin a b = min a b := (min_def_lt b a).symm.trans (min_comm b a)

attribute [wexpr] eval evalN Nat.cast_ofNat Nat.cast_zero Nat.cast_one pow_two neg_div neg_mul mul_neg pmax_eq_max pmin_eq_min
  -- both sides in normal form modulo associativity and commutativity: a harmless re-association in the Python source must still prove
  add_comm add_left_comm add_assoc mul_comm mul_left_comm mul_assoc

/-! Three of the `gen_<rule>_eq_model` family; the other eight are proved under their statements in `Props/C09`. -/

theorem gen_drpls_eq_model (env : Env α) :
    eval env Src.drpls = drplsW (expK (env.n "iteration")) (env.s "std") (env.s "meanNeg") env.r := by
  simp only [wexpr, Src.drpls, drplsW, expK, capIter]

theorem gen_quantile_eq_model (env : Env α) :
    eval env Src.quantile = quantileW (env.s "quantile") (max (env.s "eps") (env.s "minFloat")) env.r := by
  simp only [wexpr, Src.quantile, quantileW]

theorem gen_airpls_eq_model (env : Env α) (hM : 0 ≤ env.s "clipMax") :
    eval env Src.airpls = airplsRaw (airplsT (env.n "iteration")) (env.s "sumNeg") (env.s "clipMax") env.r := by
  simp only [wexpr, Src.airpls, airplsRaw, airplsT, capIter, clip_eq_min_max hM]

abbrev atR (env : Env α) (r : α) : Env α := { env with r := r }

section transfer
variable [IsStrictOrderedRing α] (hT : TranscOk T)
include hT

theorem src_quantile_bounds (env : Env α) (hq : 0 < env.s "quantile" ∧ env.s "quantile" < 1)
    (hmin : 0 < env.s "minFloat") :
    0 < eval env Src.quantile ∧
      eval env Src.quantile * Transc.sqrt (max (env.s "eps") (env.s "minFloat")) ≤
        max (env.s "quantile") (1 - env.s "quantile") := by
  have he : 0 < max (env.s "eps") (env.s "minFloat") := lt_of_lt_of_le hmin (le_max_right _ _)
  rw [gen_quantile_eq_model]
  exact quantile_bounds hT _ _ _ hq he

end transfer

/-- for the non-vacuity examples of `Props/C09`: a computable positive increasing `exp` with `exp 0 = 1` on ℚ; `sqrt` is
a placeholder, so this is not `TranscOk` (the real functions are `realTransc`, `Lemmas/WeightingReal.lean`) -/
@[reducible] def ratTransc : Transc ℚ := ⟨fun x => if x ≤ 0 then 1 / (1 - x) else 1 + x, fun x => x, fun x => |x|⟩
/-- inputs that meet every hypothesis the `src_*` theorems place on the environment -/
def envQ (r : ℚ) : Env ℚ :=
  ⟨r, fun x => if x = "std" then 2 else if x = "meanNeg" then -1 else if x = "sumNeg" then -4 else if x = "clipMax" then 700
    else if x = "maxNegW" then 8 else if x = "minFloat" then 1 / 1000 else if x = "p" then 1 / 100 else if x = "k" then 2
    else if x = "asymmetric_coef" then 1 / 2 else if x = "quantile" then 1 / 4 else if x = "partial_weights" then 1 / 2 else 0,
   fun _ => 3⟩

end PbVerif.Lemmas
