import PbVerif.Lemmas.ThreadsCore
/-! C04: first-call initialisation (1-D, 2-D) and the spline-basis cache under every interleaving.  The first-call protocols
only ever set shared flags, and what a thread knows at a program counter is upward closed in the flags: the flag-wise order is
the rely of `runSched_rely`, and no pair of program counters has to be looked at. -/
namespace PbVerif.Lemmas
open PbVerif.Threads

/-! ### Lazy1 -/

/-- the repaired order of the writes: `_size`, then `_shape`, then `x` -/
def lazy1G (s : Lazy1.Sh) : Prop := (s.x = true → s.size = true ∧ s.shape = true) ∧ (s.shape = true → s.size = true)
def lazy1L (s : Lazy1.Sh) : Lazy1.PC → Prop
  | .w2 => s.size = true
  | .w3 => s.size = true ∧ s.shape = true
  | .use => s.x = true
  | .fail => False
  | _ => True

def lazy1Le (s s' : Lazy1.Sh) : Prop :=
  (s.x = true → s'.x = true) ∧ (s.size = true → s'.size = true) ∧ (s.shape = true → s'.shape = true)

theorem lazy1L_mono (s s' : Lazy1.Sh) (u : Lazy1.PC) (h : lazy1Le s s') (hu : lazy1L s u) : lazy1L s' u := by
  cases u <;> simp only [lazy1L] at hu ⊢
  case w2 => exact h.2.1 hu
  case w3 => exact ⟨h.2.1 hu.1, h.2.2 hu.2⟩
  case use => exact h.1 hu

theorem lazy1_step (s : Lazy1.Sh) (t : Lazy1.PC) (hg : lazy1G s) (hl : lazy1L s t) :
    lazy1Le s (Lazy1.step true s t).1 ∧ lazy1G (Lazy1.step true s t).1 ∧
      lazy1L (Lazy1.step true s t).1 (Lazy1.step true s t).2.1 := by
  have same : ∀ pc', lazy1L s pc' → lazy1Le s s ∧ lazy1G s ∧ lazy1L s pc' := fun _ h => ⟨⟨id, id, id⟩, hg, h⟩
  cases t with
  | start =>
    dsimp only [Lazy1.step]
    split
    · next hx => exact same .use hx
    · exact same .w1 trivial
  | w1 => exact ⟨⟨id, fun _ => rfl, id⟩, ⟨fun hx => ⟨rfl, (hg.1 hx).2⟩, fun _ => rfl⟩, rfl⟩
  | w2 => exact ⟨⟨id, id, fun _ => rfl⟩, ⟨fun hx => ⟨hl, rfl⟩, fun _ => hl⟩, hl, rfl⟩
  | w3 => exact ⟨⟨fun _ => rfl, id, id⟩, ⟨fun _ => hl, hg.2⟩, trivial⟩
  | use =>
    -- x is published last, so the size and the shape are there
    dsimp only [Lazy1.step]
    rw [(hg.1 hl).1, (hg.1 hl).2]
    exact same .ok trivial
  | ok => exact same .ok trivial
  | fail => exact hl.elim

theorem lazy1_safe (s : Lazy1.Sh) (pcs : List Lazy1.PC) (hG : lazy1G s) (hL : ∀ pc ∈ pcs, lazy1L s pc) (sched : List Nat) :
    ∀ pc ∈ (runSched (Lazy1.proto true) s pcs sched).2, pc ≠ Lazy1.PC.fail :=
  runSched_safe (Lazy1.proto true) lazy1G lazy1L lazy1Le (· ≠ .fail) lazy1L_mono lazy1_step
    (fun _ _ h e => by subst e; exact h) s pcs hG hL sched

/-- x given at construction, either order of the writes.  Nothing is relied on: the leading `True` is the rely of `runSched_safe`. -/
theorem lazy1_given_step (xLast : Bool) (s : Lazy1.Sh) (t : Lazy1.PC) (hg : s = ⟨true, true, true⟩) (hl : t ≠ .fail) :
    True ∧ (Lazy1.step xLast s t).1 = ⟨true, true, true⟩ ∧ (Lazy1.step xLast s t).2.1 ≠ .fail := by
  subst hg
  cases t <;> cases xLast <;> simp_all [Lazy1.step]

def lazy1Rank : Lazy1.PC → Nat
  | .start => 4 | .w1 => 3 | .w2 => 2 | .w3 => 1 | .use => 1 | .ok => 0 | .fail => 0

theorem lazy1Rank_zero {pc : Lazy1.PC} (h : lazy1Rank pc = 0) : pc = .ok ∨ pc = .fail := by
  cases pc <;> simp_all [lazy1Rank]

theorem lazy1_rank_step (xLast : Bool) (s : Lazy1.Sh) (pc : Lazy1.PC) :
    lazy1Rank (Lazy1.step xLast s pc).2.1 ≤ lazy1Rank pc - 1 := by
  cases pc <;> simp only [Lazy1.step] <;> (repeat' split) <;> simp [lazy1Rank]

/-! ### Lazy2 -/

/-- an axis is published after its shape entry, and the second axis after the size -/
def lazy2G (s : Lazy2.Sh) : Prop :=
  (s.x = true → s.s0 = true) ∧ (s.z = true → s.s1 = true) ∧ (s.x = true → s.z = true → s.size = true)
/-- what a thread has read (`hx`, `hz`: the axis was there), computed (`a`, `b`, `c`) or written itself; the program counters
of the order before the repair are unreachable -/
def lazy2L (s : Lazy2.Sh) : Lazy2.PC → Prop
  | .start => True
  | .rz hx => hx = true → s.x = true
  | .chk hx hz => (hx = true → s.x = true) ∧ (hz = true → s.z = true)
  | .argX => True
  | .argZ => True
  | .rsh hx hz => (hx = true → s.x = true) ∧ (hz = true → s.z = true)
  | .wsh _ _ a b => a = true ∧ b = true
  | .rprod _ _ => s.s0 = true ∧ s.s1 = true
  | .wsize _ _ c => c = true ∧ s.s0 = true ∧ s.s1 = true
  | .wz _ _ => s.s0 = true ∧ s.s1 = true ∧ s.size = true
  | .wx => s.s0 = true ∧ s.s1 = true ∧ s.size = true
  | .use => s.s0 = true ∧ s.s1 = true ∧ s.size = true
  | .ok => True
  | _ => False

def lazy2Le (s s' : Lazy2.Sh) : Prop :=
  (s.x = true → s'.x = true) ∧ (s.z = true → s'.z = true) ∧ (s.s0 = true → s'.s0 = true) ∧
  (s.s1 = true → s'.s1 = true) ∧ (s.size = true → s'.size = true)

theorem lazy2L_mono (s s' : Lazy2.Sh) (u : Lazy2.PC) (h : lazy2Le s s') (hu : lazy2L s u) : lazy2L s' u := by
  obtain ⟨hx, hz, h0, h1, hs⟩ := h
  cases u <;> simp only [lazy2L] at hu ⊢
  case rz => exact fun a => hx (hu a)
  case chk | rsh => exact ⟨fun a => hx (hu.1 a), fun a => hz (hu.2 a)⟩
  case wsh => exact hu
  case rprod => exact ⟨h0 hu.1, h1 hu.2⟩
  case wsize => exact ⟨hu.1, h0 hu.2.1, h1 hu.2.2⟩
  case wz | wx | use => exact ⟨h0 hu.1, h1 hu.2.1, hs hu.2.2⟩

theorem lazy2_step (s : Lazy2.Sh) (t : Lazy2.PC) (hg : lazy2G s) (hl : lazy2L s t) :
    lazy2Le s (Lazy2.step true s t).1 ∧ lazy2G (Lazy2.step true s t).1 ∧
      lazy2L (Lazy2.step true s t).1 (Lazy2.step true s t).2.1 := by
  have same : ∀ pc', lazy2L s pc' → lazy2Le s s ∧ lazy2G s ∧ lazy2L s pc' := fun _ h => ⟨⟨id, id, id, id, id⟩, hg, h⟩
  obtain ⟨gx, gz, gs⟩ := hg
  cases t with
  | start => exact same _ id
  | rz hx => exact same (.chk hx s.z) ⟨hl, id⟩
  | chk hx hz =>
    -- the shape check passes: an axis that is given has its shape entry
    cases hx <;> cases hz <;> dsimp only [Lazy2.step]
    · exact same .argX trivial
    · rw [gz (hl.2 rfl)]; exact same (.rsh false true) hl
    · rw [gx (hl.1 rfl)]; exact same (.rsh true false) hl
    · rw [gx (hl.1 rfl), gz (hl.2 rfl)]; exact same .use ⟨gx (hl.1 rfl), gz (hl.2 rfl), gs (hl.1 rfl) (hl.2 rfl)⟩
  | argX => exact same .argZ trivial
  | argZ => exact same (.rsh false false) ⟨nofun, nofun⟩
  | rsh hx hz =>
    refine same (.wsh hx hz _ _) ⟨?_, ?_⟩
    · cases hx
      · rfl
      · exact gx (hl.1 rfl)
    · cases hz
      · rfl
      · exact gz (hl.2 rfl)
  | wsh hx hz a b =>
    obtain ⟨rfl, rfl⟩ := hl
    exact ⟨⟨id, id, fun _ => rfl, fun _ => rfl, id⟩, ⟨fun _ => rfl, fun _ => rfl, gs⟩, rfl, rfl⟩
  | rprod hx hz => exact same (.wsize hx hz (s.s0 && s.s1)) ⟨by rw [hl.1, hl.2]; rfl, hl⟩
  | wsize hx hz c =>
    obtain ⟨rfl, h0, h1⟩ := hl
    refine ⟨⟨id, id, id, id, fun _ => rfl⟩, ⟨gx, gz, fun _ _ => rfl⟩, ?_⟩
    dsimp only [Lazy2.step]
    split <;> exact ⟨h0, h1, rfl⟩
  | wz hx hz =>
    refine ⟨⟨id, fun _ => rfl, id, id, id⟩, ⟨gx, fun _ => hl.2.1, fun _ _ => hl.2.2⟩, ?_⟩
    dsimp only [Lazy2.step]
    split <;> exact hl
  | wx => exact ⟨⟨fun _ => rfl, id, id, id, id⟩, ⟨fun _ => hl.1, gz, fun _ _ => hl.2.2⟩, hl⟩
  | use =>
    refine same _ ?_
    dsimp only [Lazy2.step]
    rw [hl.1, hl.2.1, hl.2.2]
    trivial
  | ok => exact same .ok trivial
  | _ => exact hl.elim

theorem lazy2_safe (s : Lazy2.Sh) (pcs : List Lazy2.PC) (hG : lazy2G s) (hL : ∀ pc ∈ pcs, lazy2L s pc) (sched : List Nat) :
    ∀ pc ∈ (runSched (Lazy2.proto true) s pcs sched).2, pc ≠ Lazy2.PC.fail :=
  runSched_safe (Lazy2.proto true) lazy2G lazy2L lazy2Le (· ≠ .fail) lazy2L_mono lazy2_step
    (fun _ _ h e => by subst e; exact h) s pcs hG hL sched

/-! ### Basis -/

def basisL (p : Nat × Nat) (s : Basis.Sh) : Basis.PC → Prop
  | .bind => s.ref = some p
  | .done g => g = some p
  | _ => True

/-- every call has the same `p`, so a basis for `p` is only ever replaced by one for `p`: that is the rely.  There is no global
invariant: the `True`s are the `G` of `runSched_safe`. -/
theorem basis_step (p : Nat × Nat) (s : Basis.Sh) (t : Basis.PC) (_ : True) (hl : basisL p s t) :
    (s.ref = some p → (Basis.step p s t).1.ref = some p) ∧ True ∧ basisL p (Basis.step p s t).1 (Basis.step p s t).2.1 := by
  cases t <;> simp only [Basis.step] <;> (try split) <;> simp_all [basisL]

theorem basis_inv (p : Nat × Nat) (s : Basis.Sh) (pcs : List Basis.PC) (hL : ∀ pc ∈ pcs, basisL p s pc) (sched : List Nat) :
    ∀ pc ∈ (runSched (Basis.proto p) s pcs sched).2, ∀ g, pc = Basis.PC.done g → g = some p :=
  runSched_safe (Basis.proto p) (fun _ => True) (basisL p) (fun s s' => s.ref = some p → s'.ref = some p)
    (fun pc => ∀ g, pc = .done g → g = some p)
    (fun s s' u hR hu => by
      cases u with
      | bind => exact hR hu
      | _ => exact hu)
    (basis_step p) (fun _ _ h g e => by subst e; exact h) s pcs trivial hL sched

end PbVerif.Lemmas
