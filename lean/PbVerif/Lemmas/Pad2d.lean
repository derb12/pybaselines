import PbVerif.Lemmas.Pad2dLin
/-! The 2-D part of C18 (`utils._extrapolate2d`, `pad_edges2d`).  Every rectangular matrix is a table `tab P Q f` of its
entries `f i j`, and padding the rows or the columns of a table applies the 1-D `ext1` along the second or the first
index.  Since the two commute (`ext1_comm`), the mean that `_extrapolate2d` takes in the corners is the mean of a table
with itself (`extrapolate2d_tab`); the theorems of `Props/C18` are read off from that with the 1-D lemmas. -/
namespace PbVerif.Lemmas
open PbVerif.Pad

def tab (P Q : Nat) (f : Nat → Nat → Rat) : List (List Rat) :=
  (List.range P).map fun i => (List.range Q).map fun j => f i j

theorem tab_length (P Q : Nat) (f : Nat → Nat → Rat) : (tab P Q f).length = P := by
  unfold tab
  rw [List.length_map, List.length_range]

theorem tab_row_length (P Q : Nat) (f : Nat → Nat → Rat) : ∀ row ∈ tab P Q f, row.length = Q := by
  intro row h
  obtain ⟨i, _, rfl⟩ := List.mem_map.mp h
  rw [List.length_map, List.length_range]

theorem tab_getD (P Q : Nat) (f : Nat → Nat → Rat) (i : Nat) (hi : i < P) :
    (tab P Q f).getD i [] = (List.range Q).map fun j => f i j :=
  getD_range_map _ _ hi

theorem ent_tab (P Q : Nat) (f : Nat → Nat → Rat) (i j : Nat) (hi : i < P) (hj : j < Q) :
    ent (tab P Q f) i j = f i j := by
  unfold ent
  rw [tab_getD P Q f i hi, getD_range_map _ _ hj]

theorem tab_congr (P Q : Nat) (f g : Nat → Nat → Rat) (h : ∀ i j, i < P → j < Q → f i j = g i j) :
    tab P Q f = tab P Q g :=
  List.map_congr_left fun i hi => List.map_congr_left fun j hj =>
    h i j (List.mem_range.mp hi) (List.mem_range.mp hj)

theorem exists_tab (y : List (List Rat)) (M N : Nat) (hM : y.length = M) (hrect : ∀ row ∈ y, row.length = N) :
    ∃ f, y = tab M N f ∧ ent y = f := by
  refine ⟨ent y, ext_getD [] (by rw [tab_length, hM]) fun i hi => ?_, rfl⟩
  rw [tab_getD _ _ _ _ (hM ▸ hi), ← hrect _ (getD_mem [] hi)]
  exact (map_getD_range _ 0).symm

theorem colOf_tab (P Q : Nat) (f : Nat → Nat → Rat) (j : Nat) (hj : j < Q) :
    colOf (tab P Q f) j = (List.range P).map fun i => f i j := by
  unfold colOf tab
  rw [List.map_map]
  exact List.map_congr_left fun i _ => getD_range_map _ _ hj

theorem transposeR_eq (m : List (List Rat)) (h : 0 < m.length) :
    transposeR m = (List.range (m.getD 0 []).length).map (colOf m) := by
  cases m with
  | nil => cases h
  | cons r t => rfl

theorem transposeR_tab (P Q : Nat) (f : Nat → Nat → Rat) (hP : 1 ≤ P) :
    transposeR (tab P Q f) = tab Q P fun j i => f i j := by
  rw [transposeR_eq _ (by rw [tab_length]; exact hP), tab_getD _ _ _ _ hP, List.length_map, List.length_range]
  exact List.map_congr_left fun j hj => colOf_tab P Q f j (List.mem_range.mp hj)

theorem padRows_tab (P Q pad wl wr : Nat) (f : Nat → Nat → Rat) :
    padRows (tab P Q f) pad wl wr = tab P (Q + 2 * pad) fun i => ext1 Q pad wl wr fun j => f i j := by
  unfold padRows tab
  rw [List.map_map]
  apply List.map_congr_left
  intro i _
  simp only [Function.comp_def, List.length_map, List.length_range]
  exact padEdges_eq_ext1 Q pad wl wr _

theorem padCols_tab (P Q pad wt wb : Nat) (f : Nat → Nat → Rat) (hP : 1 ≤ P) (hQ : 1 ≤ Q) :
    padCols (tab P Q f) pad wt wb = tab (P + 2 * pad) Q fun k j => ext1 P pad wt wb (fun i => f i j) k := by
  unfold padCols
  rw [transposeR_tab P Q f hP, padRows_tab, transposeR_tab _ _ _ hQ]

theorem avg2_self (m : List (List Rat)) : avg2 m m = m := by
  unfold avg2
  simp only [List.zipWith_self, add_self_div_two, List.map_id']

theorem padRows_padCols_tab (M N pr pc wt wb wl wr : Nat) (f : Nat → Nat → Rat) (hM : 1 ≤ M) (hN : 1 ≤ N) :
    padRows (padCols (tab M N f) pr wt wb) pc wl wr =
      tab (M + 2 * pr) (N + 2 * pc) fun k l => ext1 N pc wl wr (fun j => ext1 M pr wt wb (fun i => f i j) k) l := by
  rw [padCols_tab _ _ _ _ _ _ hM hN, padRows_tab]

theorem padCols_padRows_tab (M N pr pc wt wb wl wr : Nat) (f : Nat → Nat → Rat) (hM : 1 ≤ M) (hN : 1 ≤ N) :
    padCols (padRows (tab M N f) pc wl wr) pr wt wb =
      tab (M + 2 * pr) (N + 2 * pc) fun k l => ext1 N pc wl wr (fun j => ext1 M pr wt wb (fun i => f i j) k) l := by
  rw [padRows_tab, padCols_tab _ _ _ _ _ _ hM (by omega)]
  exact tab_congr _ _ _ _ fun k l hk hl => ext1_comm M N pr pc wt wb wl wr f hM hN k l hk hl

theorem extrapolate2d_tab (M N pr pc wt wb wl wr : Nat) (f : Nat → Nat → Rat) (hM : 1 ≤ M) (hN : 1 ≤ N) :
    extrapolate2d (tab M N f) pr pc wt wb wl wr =
      tab (M + 2 * pr) (N + 2 * pc) fun k l => ext1 N pc wl wr (fun j => ext1 M pr wt wb (fun i => f i j) k) l := by
  unfold extrapolate2d
  rw [padCols_padRows_tab _ _ _ _ _ _ _ _ _ hM hN, padRows_padCols_tab _ _ _ _ _ _ _ _ _ hM hN, avg2_self]

theorem extrapolate2d_rect (y : List (List Rat)) (M N pr pc wt wb wl wr : Nat) (hM : y.length = M)
    (hrect : ∀ row ∈ y, row.length = N) (hM1 : 1 ≤ M) (hN1 : 1 ≤ N) :
    extrapolate2d y pr pc wt wb wl wr =
      tab (M + 2 * pr) (N + 2 * pc) fun k l => ext1 N pc wl wr (fun j => ext1 M pr wt wb (fun i => ent y i j) k) l := by
  obtain ⟨f, rfl, hf⟩ := exists_tab y M N hM hrect
  rw [extrapolate2d_tab _ _ _ _ _ _ _ _ _ hM1 hN1, hf]

/-- the plane is given in the coordinates of the padded array: the data sit at rows `pr …`, columns `pc …` -/
theorem extrapolate2d_planar_clamped (a b c : Rat) (M N pr pc wt wb wl wr : Nat) (hM : 1 ≤ M) (hN : 1 ≤ N)
    (hwt : 1 ≤ wt) (hwb : 1 ≤ wb) (hwl : 1 ≤ wl) (hwr : 1 ≤ wr) (f : Nat → Nat → Rat)
    (hf : ∀ i j, i < M → j < N → f i j = a + b * ((pr + i : Nat) : Rat) + c * ((pc + j : Nat) : Rat)) :
    extrapolate2d (tab M N f) pr pc wt wb wl wr =
      tab (M + 2 * pr) (N + 2 * pc) fun k l =>
        a + b * ((clampIdx pr M wt wb k : Nat) : Rat) + c * ((clampIdx pc N wl wr l : Nat) : Rat) := by
  rw [extrapolate2d_tab _ _ _ _ _ _ _ _ _ hM hN]
  apply tab_congr
  intro k l hk hl
  -- the pass down column `j` sees the intercept `a + c·(pc+j)`, the pass along row `k` then `a + b·clampIdx k`
  rw [ext1_congr N pc wl wr _ (fun j => (a + b * ((clampIdx pr M wt wb k : Nat) : Rat)) + c * ((pc + j : Nat) : Rat)) l
      (fun j hj => by
        rw [ext1_linear M pr wt wb hM hwt hwb _ (a + c * ((pc + j : Nat) : Rat)) b k hk (fun i hi => by rw [hf i j hi hj]; ring)]
        ring),
    ext1_linear N pc wl wr hN hwl hwr _ _ c l hl (fun _ _ => rfl)]

end PbVerif.Lemmas
