import PbVerif.Lemmas.BSpline
import PbVerif.Lemmas.Affine
/-! C12, C07: the B-spline kernels are invariant under an increasing affine map `t ↦ a·t + b` of the abscissae and the knots
(`_find_interval` only compares such values, `_de_boor` only forms ratios of their differences), and `_spline_knots` commutes
with the map: the basis, `B'WB`, `B'Wy` do not depend on offset and scale of the x-axis. -/
namespace PbVerif.Lemmas.Affine
open PbVerif.BSpline PbVerif.Lemmas

/-- one product `factor * (x_val - left_knot)` or `factor * (right_knot - x_val)` of `_de_boor` -/
theorem term_aff (a b : Rat) (ha : a ≠ 0) (lk rk o p q : Rat) :
    (if aff a b lk = aff a b rk then 0 else o / (aff a b rk - aff a b lk)) * (aff a b p - aff a b q) =
    (if lk = rk then 0 else o / (rk - lk)) * (p - q) := by
  rw [factor_eq, factor_eq, mul_comm, aff_ratio a b ha, mul_comm]

theorem deBoorStep_aff (a b : Rat) (ha : a ≠ 0) (knots : List Rat) (x : Rat) (left i : Nat) (old : List Rat)
    (hk : left + i < knots.length) :
    deBoorStep (knots.map (aff a b)) (aff a b x) left i old = deBoorStep knots x left i old := by
  refine List.map_congr_left fun j hj => ?_
  have hj' : j ≤ i := Nat.le_of_lt_succ (List.mem_range.mp hj)
  -- the first product reads knots up to `left + i` whatever `j`, the second only under its guard `j + 1 ≤ i`
  refine congrArg₂ (· + ·) (ite_congr rfl (fun _ => ?_) fun _ => rfl) (ite_congr rfl (fun h2 => ?_) fun _ => rfl)
  · dsimp only
    rw [getD_map_aff a b knots (left + j) (by omega), getD_map_aff a b knots (left + j - i) (by omega)]
    exact term_aff a b ha _ _ _ _ _
  · dsimp only
    rw [getD_map_aff a b knots (left + (j + 1)) (by omega), getD_map_aff a b knots (left + (j + 1) - i) (by omega),
      getD_map_aff a b knots (left + j + 1) (by omega)]
    exact term_aff a b ha _ _ _ _ _

theorem deBoorUpTo_aff (a b : Rat) (ha : a ≠ 0) (knots : List Rat) (x : Rat) (left i : Nat)
    (hk : left + i < knots.length) :
    deBoorUpTo (knots.map (aff a b)) (aff a b x) left i = deBoorUpTo knots x left i := by
  induction i with
  | zero => rfl
  | succ i ih =>
    simp only [deBoorUpTo]
    rw [ih (by omega), deBoorStep_aff a b ha knots x left (i + 1) _ hk]

theorem findInterval_map (φ : Rat → Rat) (hφ : ∀ s t, φ s < φ t ↔ s < t) (knots : List Rat) (deg : Nat) (x : Rat)
    (lastLeft nb : Nat) (hd : deg < nb) (hlen : nb < knots.length) :
    findInterval (knots.map φ) deg (φ x) lastLeft nb = findInterval knots deg x lastLeft nb := by
  simp only [findInterval]
  rw [findIntervalT_congr _ (fun i => decide (x < knots.getD i 0)) _ (fun i => decide (x ≥ knots.getD i 0))
    deg lastLeft nb hd]
  · intro i hi
    rw [decide_eq_decide, getD_map_of_lt φ 0 0 (by omega), hφ]
  · intro i hi
    rw [decide_eq_decide, getD_map_of_lt φ 0 0 (by omega)]
    exact not_lt.symm.trans ((not_congr (hφ _ _)).trans not_lt)

theorem designRows_aff (a b : Rat) (ha : 0 < a) (knots : List Rat) (deg : Nat) (xs : List Rat)
    (h : deg < knots.length - (deg + 1)) :
    designRows (knots.map (aff a b)) deg (xs.map (aff a b)) = designRows knots deg xs := by
  rw [designRows, designRows, List.length_map, List.foldl_map]
  refine congrArg Prod.snd (foldl_congr_mem _ _ _ (fun acc x _ => ?_) _)
  have hb : findInterval knots deg x acc.1 (knots.length - (deg + 1)) < knots.length - (deg + 1) :=
    (findIntervalT_inb _ _ deg acc.1 _ h).2.1
  dsimp only
  rw [findInterval_map _ (aff_lt a b ha) knots deg x acc.1 _ h (by omega), deBoor,
    deBoorUpTo_aff a b ha.ne' knots x _ deg (Nat.lt_of_lt_of_le (Nat.add_lt_add_right hb deg) (by omega))]
  rfl

theorem splineKnots_aff (a b xmin xmax : Rat) (nk deg : Nat) :
    splineKnots (aff a b xmin) (aff a b xmax) nk deg = (splineKnots xmin xmax nk deg).map (aff a b) := by
  simp only [splineKnots, List.map_map]
  apply List.map_congr_left
  intro i _
  simp only [Function.comp, aff]
  ring

/-- `x.min()` and `x.max()` (`xMin`, `xMax`) at once -/
theorem foldl_select_map (R : Rat → Rat → Prop) [DecidableRel R] (φ : Rat → Rat) (hφ : ∀ s t, R (φ s) (φ t) ↔ R s t)
    (xs : List Rat) (m : Rat) :
    (xs.map φ).foldl (fun m v => if R v m then v else m) (φ m) = φ (xs.foldl (fun m v => if R v m then v else m) m) := by
  induction xs generalizing m with
  | nil => rfl
  | cons x xs ih =>
    simp only [List.map_cons, List.foldl_cons, hφ, ← ih]
    split <;> rfl

theorem xMin_aff (a b : Rat) (ha : 0 < a) (xs : List Rat) (hx : xs ≠ []) :
    xMin (xs.map (aff a b)) = aff a b (xMin xs) := by
  cases xs with
  | nil => exact absurd rfl hx
  | cons x xs => exact foldl_select_map (· < ·) _ (aff_lt a b ha) xs x
theorem xMax_aff (a b : Rat) (ha : 0 < a) (xs : List Rat) (hx : xs ≠ []) :
    xMax (xs.map (aff a b)) = aff a b (xMax xs) := by
  cases xs with
  | nil => exact absurd rfl hx
  | cons x xs => exact foldl_select_map (· > ·) _ (fun s t => aff_lt a b ha t s) xs x

theorem xKnots_aff (a b : Rat) (ha : 0 < a) (xs : List Rat) (hx : xs ≠ []) (nk deg : Nat) :
    xKnots (xs.map (aff a b)) nk deg = (xKnots xs nk deg).map (aff a b) := by
  simp only [xKnots, xMin_aff a b ha xs hx, xMax_aff a b ha xs hx, splineKnots_aff]

theorem pSplineBasis_aff (a b : Rat) (ha : 0 < a) (xs : List Rat) (hx : xs ≠ []) (nk deg : Nat) (hnk : 2 ≤ nk) :
    pSplineBasis (xs.map (aff a b)) nk deg = pSplineBasis xs nk deg := by
  simp only [pSplineBasis, xKnots_aff a b ha xs hx]
  exact designRows_aff a b ha _ deg xs (by simp only [xKnots]; rw [splineKnots_length]; omega)

end PbVerif.Lemmas.Affine
