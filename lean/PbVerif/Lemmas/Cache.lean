import PbVerif.Model.Cache
import PbVerif.Lemmas.ListAux
/-! C03 (and the lazily built x of C16): on a coherent object the outcome of a call depends on the x-values only (`callStep_outcome`), which is why a reused
object answers like a fresh one.  At the end the rows of `polyvander`, whose column-prefix law lets the model keep a column
count for the stored Vandermonde. -/
namespace PbVerif.Lemmas
open PbVerif.Cache

def PolyOk (p : Poly) : Prop := p.cols = p.order + 1 ∧ (p.stale = false → p.pinvCols = some p.cols)

def Poly2Ok (p : Poly2) : Prop :=
  p.vKey = (p.orders, p.maxCross) ∧ (p.stale = false → p.pinvKey = some p.vKey)

/-- the invariant of the object; `_validated_x` only ever records that x is unique, and no cache exists before x (the size) does -/
def Coherent (s : St) : Prop :=
  (∀ p, s.poly = some p → PolyOk p) ∧ (∀ p, s.poly2 = some p → Poly2Ok p) ∧
  (s.validated = true → s.xUnique = true) ∧ (s.size = none → s.poly = none ∧ s.poly2 = none ∧ s.spline = none)

theorem stale_false_of_not_or {st b : Bool} (h : ¬ (st || b) = true) : st = false := by
  cases st
  · rfl
  · exact absurd rfl h

theorem recalc_ok (sp : Option Poly) (k : Nat) (h : ∀ p, sp = some p → PolyOk p) :
    PolyOk (recalc sp k) ∧ (recalc sp k).cols = k + 1 := by
  cases sp with
  | none => exact ⟨⟨rfl, Bool.noConfusion⟩, rfl⟩
  | some p =>
    obtain ⟨h1, h2⟩ := h p rfl
    simp only [recalc]
    split
    · exact ⟨⟨rfl, Bool.noConfusion⟩, rfl⟩
    · split
      · next hlt =>
        -- the stored matrix is sliced: `p.cols = p.order + 1 > k + 1`
        have hc : min p.cols (k + 1) = k + 1 := Nat.min_eq_right (h1 ▸ Nat.succ_le_succ (Nat.le_of_lt hlt))
        exact ⟨⟨hc, Bool.noConfusion⟩, hc⟩
      · next h3 h4 =>
        obtain rfl : k = p.order := Nat.le_antisymm (Nat.le_of_not_lt h3) (Nat.le_of_not_lt h4)
        exact ⟨⟨h1, h2⟩, h1⟩

theorem getPinv_ok (p : Poly) (h : PolyOk p) :
    PolyOk (getPinv p).1 ∧ (getPinv p).1.cols = p.cols ∧ (getPinv p).2 = p.cols := by
  obtain ⟨h1, h2⟩ := h
  unfold getPinv
  split
  · exact ⟨⟨h1, fun _ => rfl⟩, rfl, rfl⟩
  · next hc =>
    exact ⟨⟨h1, h2⟩, rfl, by simp [h2 (stale_false_of_not_or hc)]⟩

theorem recalc2_ok (sp : Option Poly2) (o : Nat × Nat) (mc : Option Nat) (h : ∀ p, sp = some p → Poly2Ok p) :
    Poly2Ok (recalc2 sp o mc) ∧ (recalc2 sp o mc).vKey = (o, mc) := by
  cases sp with
  | none => exact ⟨⟨rfl, Bool.noConfusion⟩, rfl⟩
  | some p =>
    obtain ⟨h1, h2⟩ := h p rfl
    simp only [recalc2]
    split
    · exact ⟨⟨rfl, Bool.noConfusion⟩, rfl⟩
    · next hc =>
      obtain ⟨rfl, rfl⟩ : p.maxCross = mc ∧ p.orders = o := by simpa using hc
      exact ⟨⟨h1, h2⟩, h1⟩

theorem getPinv2_ok (p : Poly2) (h : Poly2Ok p) :
    Poly2Ok (getPinv2 p).1 ∧ (getPinv2 p).1.vKey = p.vKey ∧ (getPinv2 p).2 = p.vKey := by
  obtain ⟨h1, h2⟩ := h
  unfold getPinv2
  split
  · exact ⟨⟨h1, fun _ => rfl⟩, rfl, rfl⟩
  · next hc =>
    exact ⟨⟨h1, h2⟩, rfl, by simp [h2 (stale_false_of_not_or hc)]⟩

/-- the outcome of a body on an object whose caches are coherent (in particular: a fresh one) -/
def bodySpec : Kind → Outcome
  | .plain => .ok .none
  | .failsInside => .failed
  | .polyNoVander => .ok .none
  | .poly k weighted pinv =>
    .ok (.poly (k + 1) (if !pinv then none else if weighted then none else some (k + 1)))
  | .poly2 a b mc weighted pinv =>
    .ok (.poly2 ((a, b), mc) (if !pinv then none else if weighted then none else some ((a, b), mc)))
  | .spline kn dg failAfter => if failAfter then .failed else .ok (.spline (kn, dg))

theorem body_spec (s : St) (k : Kind) (h1 : ∀ p, s.poly = some p → PolyOk p) (h2 : ∀ p, s.poly2 = some p → Poly2Ok p) :
    (body s k).2 = bodySpec k ∧
      (∀ p, (body s k).1.poly = some p → PolyOk p) ∧ (∀ p, (body s k).1.poly2 = some p → Poly2Ok p) := by
  cases k with
  | poly k w pv =>
    obtain ⟨hr, hcols⟩ := recalc_ok s.poly k h1
    obtain ⟨hg, hg1, hg2⟩ := getPinv_ok _ hr
    cases pv <;> cases w <;>
      exact ⟨by simp [body, bodySpec, hcols, hg1, hg2], fun p hp => by cases hp; assumption, h2⟩
  | poly2 a b mc w pv =>
    obtain ⟨hr, hkey⟩ := recalc2_ok s.poly2 (a, b) mc h2
    obtain ⟨hg, hg1, hg2⟩ := getPinv2_ok _ hr
    cases pv <;> cases w <;>
      exact ⟨by simp [body, bodySpec, hkey, hg1, hg2], h1, fun p hp => by cases hp; assumption⟩
  | spline kn dg fa =>
    refine ⟨?_, h1, h2⟩
    unfold body bodySpec
    cases hs : s.spline with
    | none => rfl
    | some key =>
      by_cases hk : key = (kn, dg)
      · subst hk; simp
      · simp [hk]
  | _ => exact ⟨rfl, h1, h2⟩

theorem body_fields (s : St) (k : Kind) :
    (body s k).1.size = s.size ∧ (body s k).1.xUnique = s.xUnique ∧ (body s k).1.validated = s.validated := by
  cases k with
  | poly k w pv => cases pv <;> cases w <;> exact ⟨rfl, rfl, rfl⟩
  | poly2 a b mc w pv => cases pv <;> cases w <;> exact ⟨rfl, rfl, rfl⟩
  | _ => exact ⟨rfl, rfl, rfl⟩

theorem body_coherent (s : St) (k : Kind) (h : Coherent s) (hs : s.size ≠ none) : Coherent (body s k).1 := by
  obtain ⟨f1, f2, f3⟩ := body_fields s k
  obtain ⟨-, o1, o2⟩ := body_spec s k h.1 h.2.1
  exact ⟨o1, o2, fun hv => f2.trans (h.2.2.1 (f3.symm.trans hv)), fun hn => absurd (f1.symm.trans hn) hs⟩

theorem coherent_init (twoD : Bool) (given : Option (Nat × Bool)) (h : ∀ n, given = some (n, false) → True) :
    Coherent (init twoD given) := by
  refine ⟨fun _ hp => ?_, fun _ hp => ?_, fun hv => ?_, fun _ => ⟨rfl, rfl, rfl⟩⟩
  · cases hp
  · cases hp
  · cases given with
    | none => rfl
    | some g => cases hv

/-- the state after `inner`'s x-validation -/
def mid (s : St) (c : Call) : St :=
  if c.uniqueX && !s.validated then { s with validated := true } else s

theorem callStep_none (s : St) (c : Call) (hsz : s.size = none) :
    callStep s c = body { s with size := some c.len, xUnique := true } c.kind := by
  unfold callStep
  split
  · rfl
  · next m hm => rw [hsz] at hm; cases hm

theorem callStep_some (s : St) (c : Call) (n : Nat) (hsz : s.size = some n) :
    callStep s c =
      if c.uniqueX && !s.validated && !s.xUnique then (s, .nonUniqueX)
      else if c.len != n then (mid s c, .lenMismatch) else body (mid s c) c.kind := by
  unfold callStep
  split
  · next hm => rw [hsz] at hm; cases hm
  · next m hm => rw [hsz] at hm; cases hm; rfl

theorem mid_fields (s : St) (c : Call) :
    (mid s c).size = s.size ∧ (mid s c).xUnique = s.xUnique ∧ (mid s c).poly = s.poly ∧
    (mid s c).poly2 = s.poly2 ∧ (mid s c).spline = s.spline := by
  unfold mid; split <;> exact ⟨rfl, rfl, rfl, rfl, rfl⟩

theorem mid_coherent (s : St) (c : Call) (h : Coherent s)
    (hA : ¬ (c.uniqueX && !s.validated && !s.xUnique) = true) : Coherent (mid s c) := by
  obtain ⟨h1, h2, h3, h4⟩ := h
  unfold mid
  split
  · next hB =>
    refine ⟨h1, h2, fun _ => ?_, h4⟩
    cases hx : s.xUnique with
    | true => rfl
    | false => exact absurd (by simp [hB, hx]) hA
  · exact ⟨h1, h2, h3, h4⟩

theorem callStep_coherent (s : St) (c : Call) (h : Coherent s) : Coherent (callStep s c).1 := by
  cases hsz : s.size with
  | none =>
    rw [callStep_none s c hsz]
    exact body_coherent _ _ ⟨h.1, h.2.1, fun _ => rfl, nofun⟩ nofun
  | some n =>
    rw [callStep_some s c n hsz]
    split
    · exact h
    · next hA =>
      have hm := mid_coherent s c h hA
      split
      · exact hm
      · exact body_coherent _ _ hm (by rw [(mid_fields s c).1, hsz]; nofun)

theorem coherent_step (s : St) (o : Op) (h : Coherent s) : Coherent (step s o).1 := by
  cases o with
  | call c => exact callStep_coherent s c h
  | setSolver v isBool =>
    dsimp only [step]
    split <;> exact h

theorem coherent_run (s : St) (ops : List Op) (h : Coherent s) : Coherent (run s ops) :=
  foldl_keeps Coherent _ ops (fun s o h => coherent_step s o h) s h

def callSpec (x : Option (Nat × Bool)) (c : Call) : Outcome :=
  match x with
  | none => bodySpec c.kind
  | some (n, u) => if c.uniqueX && !u then .nonUniqueX else if c.len != n then .lenMismatch else bodySpec c.kind

theorem callStep_outcome (s : St) (c : Call) (h : Coherent s) : (callStep s c).2 = callSpec (xOf s) c := by
  obtain ⟨h1, h2, h3, h4⟩ := h
  unfold xOf
  cases hsz : s.size with
  | none =>
    obtain ⟨p1, p2, -⟩ := h4 hsz
    rw [callStep_none s c hsz]
    exact (body_spec _ _ (fun p hp => by rw [p1] at hp; cases hp) (fun p hp => by rw [p2] at hp; cases hp)).1
  | some n =>
    rw [callStep_some s c n hsz]
    obtain ⟨_, _, m1, m2, _⟩ := mid_fields s c
    -- by `h3` the flag `_validated_x` does not change which calls are refused
    have hv : (c.uniqueX && !s.validated && !s.xUnique) = (c.uniqueX && !s.xUnique) := by
      cases hval : s.validated with
      | false => simp
      | true => simp [h3 hval]
    simp only [callSpec, Option.map_some, hv]
    split
    · rfl
    · split
      · rfl
      · exact (body_spec _ _ (m1 ▸ h1) (m2 ▸ h2)).1

theorem xOf_init (twoD : Bool) (x : Option (Nat × Bool)) : xOf (init twoD x) = x := by
  cases x <;> rfl

theorem callStep_refines (s : St) (c : Call) (h : Coherent s) : (callStep s c).2 = freshOutcome s c := by
  rw [freshOutcome, callStep_outcome s c h, callStep_outcome _ c (coherent_init _ _ fun _ _ => trivial), xOf_init]

theorem callStep_xOf (s : St) (c : Call) {nu : Nat × Bool} (h : xOf s = some nu) : xOf (callStep s c).1 = xOf s := by
  obtain ⟨m, hsz, -⟩ := Option.map_eq_some_iff.1 h
  have hmid : xOf (mid s c) = xOf s := by
    unfold xOf; rw [(mid_fields s c).1, (mid_fields s c).2.1]
  rw [callStep_some s c m hsz]
  split
  · rfl
  · split
    · exact hmid
    · obtain ⟨e1, e2, -⟩ := body_fields (mid s c) c.kind
      rw [← hmid]
      unfold xOf
      rw [e1, e2]

/-- powers 1, x, …, x^k: one row of `polyvander` -/
def vanderRow (x : Rat) : Nat → List Rat
  | 0 => [1]
  | k+1 => vanderRow x k ++ [x ^ (k+1)]
theorem vanderRow_eq_map (x : Rat) (k : Nat) : vanderRow x k = (List.range (k + 1)).map (x ^ ·) := by
  induction k with
  | zero => rw [vanderRow, List.range_one, List.map_singleton, Rat.pow_zero]
  | succ k ih => rw [vanderRow, ih, List.range_succ (n := k + 1), List.map_append]; rfl
theorem vanderRow_length (x : Rat) (k : Nat) : (vanderRow x k).length = k + 1 := by
  rw [vanderRow_eq_map, List.length_map, List.length_range]

end PbVerif.Lemmas
