import PbVerif.Lemmas.ListAux
/-! Tables (arrays of rows of one length) and the loops that accumulate into them (`_numba_btb_bty`, `_numba_banded_dot_banded`):
every step is `t[r, c] += v`, so a cell of the result is its old value plus what the steps add to it, and a loop level that meets a
given cell in at most one pass adds one term (`sum_single`). Core Lean only. -/
namespace PbVerif.Lemmas

def TblShape (ab : List (List Rat)) (R n : Nat) : Prop :=
  ab.length = R ∧ ∀ r, r < R → (ab.getD r []).length = n

theorem shape_zero_rows (p n : Nat) : TblShape (List.replicate p (List.replicate n (0:Rat))) p n := by
  refine ⟨by simp, fun r hr => ?_⟩
  rw [getD_replicate, if_pos hr]; simp

/-- `t[r, c] += v`; outside the array nothing happens -/
theorem shape_addAt {t : List (List Rat)} {R n : Nat} (h : TblShape t R n) (r c : Nat) (v : Rat) :
    TblShape (t.modify r fun row => row.modify c (· + v)) R n := by
  refine ⟨by rw [List.length_modify, h.1], fun k hk => ?_⟩
  rw [getD_modify]
  split
  · rw [List.length_modify]; exact h.2 k hk
  · exact h.2 k hk

theorem ent_addAt {t : List (List Rat)} {R n : Nat} (h : TblShape t R n) (r c : Nat) (v : Rat) (r' c' : Nat)
    (hr : r' < R) (hc : c' < n) :
    ent (t.modify r fun row => row.modify c (· + v)) r' c' = ent t r' c' + if r = r' ∧ c = c' then v else 0 := by
  unfold ent
  rw [getD_modify, h.1]
  by_cases h1 : r = r'
  · rw [if_pos ⟨h1, hr⟩, getD_modify, h.2 r' hr]
    by_cases h2 : c = c'
    · rw [if_pos ⟨h2, hc⟩, if_pos ⟨h1, h2⟩]
    · rw [if_neg (fun h => h2 h.1), if_neg (fun h => h2 h.2), Rat.add_zero]
  · rw [if_neg (fun h => h1 h.1), if_neg (fun h => h1 h.1), Rat.add_zero]

theorem foldl_adds {σ α : Type _} (Inv : σ → Prop) (e : σ → Rat) (step : σ → α → σ) (δ : α → Rat) (L : List α)
    (hstep : ∀ s, ∀ a ∈ L, Inv s → Inv (step s a) ∧ e (step s a) = e s + δ a) (s : σ) (hs : Inv s) :
    Inv (L.foldl step s) ∧ e (L.foldl step s) = e s + (L.map δ).sum := by
  induction L generalizing s with
  | nil => exact ⟨hs, (Rat.add_zero _).symm⟩
  | cons a L ih =>
    obtain ⟨h1, h2⟩ := hstep s a List.mem_cons_self hs
    obtain ⟨h3, h4⟩ := ih (fun s a ha => hstep s a (List.mem_cons_of_mem _ ha)) _ h1
    exact ⟨h3, by rw [List.foldl_cons, h4, h2, List.map_cons, List.sum_cons, Rat.add_assoc]⟩

theorem sum_single {ι : Type _} [DecidableEq ι] (l : List ι) (hnd : l.Nodup) (f : ι → Rat) (x0 : ι)
    (h0 : ∀ x ∈ l, x ≠ x0 → f x = 0) : (l.map f).sum = if x0 ∈ l then f x0 else 0 := by
  induction l with
  | nil => rfl
  | cons a l ih =>
    obtain ⟨ha, hl⟩ := List.nodup_cons.1 hnd
    rw [List.map_cons, List.sum_cons, ih hl fun x hx => h0 x (List.mem_cons_of_mem _ hx)]
    by_cases e : a = x0
    · subst e
      rw [if_neg ha, if_pos List.mem_cons_self, Rat.add_zero]
    · rw [h0 a List.mem_cons_self e, Rat.zero_add]
      by_cases hx : x0 ∈ l
      · rw [if_pos hx, if_pos (List.mem_cons_of_mem _ hx)]
      · rw [if_neg hx, if_neg fun h => hx ((List.mem_cons.1 h).resolve_left (Ne.symm e))]

end PbVerif.Lemmas
