import Mathlib.Algebra.Order.Field.Rat
import PbVerif.Lemmas.ListAux
import PbVerif.Model.Optim
/-! Lemmas for C17, one per index planner of `Model/Optim.lean`: the roll, the added part, the cut-back and the first
minimum of `optimize_extended_range`, one full region of `custom_bc`, the `pointwiseMax` of `adaptive_minmax`. -/
namespace PbVerif.Lemmas
open PbVerif.Optim

/-- where `np.roll(b, s)`, `len(b) = a + s`, takes its element `j` from -/
theorem roll_index (a s j : Nat) (hj : j < a + s) :
    (j + (a + s) - s % (a + s)) % (a + s) = if j < s then a + j else j - s := by
  rcases Nat.eq_zero_or_pos a with rfl | ha
  · rw [Nat.zero_add] at hj ⊢
    rw [Nat.mod_self, Nat.sub_zero, Nat.add_mod_right, Nat.mod_eq_of_lt hj, if_pos hj, Nat.zero_add]
  · rw [Nat.mod_eq_of_lt (Nat.lt_add_of_pos_left ha)]
    split
    · next h => rw [← Nat.add_assoc, Nat.add_sub_cancel, Nat.add_comm j a, Nat.mod_eq_of_lt (Nat.add_lt_add_left h a)]
    · next h =>
      rw [Nat.sub_add_comm (Nat.le_of_not_lt h), Nat.add_mod_right, Nat.mod_eq_of_lt (Nat.lt_of_le_of_lt (Nat.sub_le j s) hj)]

theorem rollTake_append (p q : List Rat) (m : Nat) (hm : m ≤ (p ++ q).length) :
    rollTake (p ++ q) q.length m = (q ++ p).take m := by
  rw [List.length_append] at hm
  refine ext_getD 0 (by rw [rollTake, List.length_map, List.length_range, List.length_take, List.length_append,
    Nat.add_comm, Nat.min_eq_left hm]) fun j hj => ?_
  have hj : j < m := by rwa [rollTake, List.length_map, List.length_range] at hj
  have hjn : j < p.length + q.length := Nat.lt_of_lt_of_le hj hm
  rw [rollTake, getD_range_map _ _ hj, List.length_append, roll_index _ _ j hjn, getD_take_of_lt _ _ hj, getD_append, getD_append]
  split
  · rw [if_neg (Nat.not_lt.mpr (Nat.le_add_right _ _)), Nat.add_sub_cancel_left]
  · next h => rw [if_pos (Nat.sub_lt_left_of_lt_add (Nat.le_of_not_lt h) (Nat.add_comm _ _ ▸ hjn))]

/-- `r ++ l` is the order in which `known_background` is assembled (`added_right`, then `added_left`); `hl`, `hr`: the
blocks have the widths `padSide` gives them -/
theorem addedPart_append (side : Side) (k : Nat) (l m r : List Rat) (hl : l.length = if side = .right then 0 else k)
    (hr : r.length = if side = .left then 0 else k) : addedPart side k (l ++ m ++ r) = r ++ l := by
  have ha : (if side = .both then 2 * k else k) = r.length + l.length := by
    cases side <;> simp only [hl, hr, reduceCtorEq, if_true, if_false, Nat.two_mul, Nat.add_zero, Nat.zero_add]
  have hm : r.length + l.length ≤ (l ++ m ++ r).length := by
    rw [List.length_append, List.length_append, Nat.add_comm, Nat.add_assoc]
    exact Nat.add_le_add_left (Nat.le_add_left _ _) _
  rw [addedPart, ← hr, ha, rollTake_append _ _ _ hm, ← List.append_assoc, List.take_left' List.length_append]

/-- `f` stands for the step function of `argminFirst`, given by its two equations so that the `match` of the definition
is not restated -/
theorem argminFirst_fold (l : List Rat) (f : Nat × Option Rat → Nat → Nat × Option Rat)
    (hnone : ∀ a i, f (a, none) i = (i, some (l.getD i 0)))
    (hsome : ∀ a m i, f (a, some m) i = if l.getD i 0 < m then (i, some (l.getD i 0)) else (a, some m))
    (hpos : 0 < l.length) :
    ((List.range l.length).foldl f (0, none)).1 < l.length ∧
    (∀ j, j < l.length → l.getD ((List.range l.length).foldl f (0, none)).1 0 ≤ l.getD j 0) ∧
    (∀ j, j < ((List.range l.length).foldl f (0, none)).1 →
      l.getD ((List.range l.length).foldl f (0, none)).1 0 < l.getD j 0) := by
  have key : ∀ n, ∃ i, (List.range (n + 1)).foldl f (0, none) = (i, some (l.getD i 0)) ∧ i < n + 1 ∧
      (∀ j, j < n + 1 → l.getD i 0 ≤ l.getD j 0) ∧ ∀ j, j < i → l.getD i 0 < l.getD j 0 := by
    intro n
    induction n with
    | zero =>
      refine ⟨0, by simp [List.range_succ, hnone], Nat.zero_lt_one, fun j hj => ?_, fun j hj => absurd hj (Nat.not_lt_zero j)⟩
      rw [Nat.lt_one_iff.mp hj]
    | succ n ih =>
      obtain ⟨i, h1, h2, h3, h4⟩ := ih
      rw [List.range_succ, List.foldl_append, h1, List.foldl_cons, List.foldl_nil, hsome]
      by_cases hlt : l.getD (n + 1) 0 < l.getD i 0
      · refine ⟨n + 1, if_pos hlt, Nat.lt_succ_self _, fun j hj => ?_, fun j hj => hlt.trans_le (h3 j hj)⟩
        rcases Nat.lt_succ_iff_lt_or_eq.mp hj with hj | rfl
        · exact hlt.le.trans (h3 j hj)
        · exact le_rfl
      · refine ⟨i, if_neg hlt, Nat.lt_succ_of_lt h2, fun j hj => ?_, h4⟩
        rcases Nat.lt_succ_iff_lt_or_eq.mp hj with hj | rfl
        · exact h3 j hj
        · exact not_lt.mp hlt
  obtain ⟨i, h1, h2, h3, h4⟩ := key (l.length - 1)
  rw [Nat.sub_add_cancel hpos] at h1 h2 h3
  rw [h1]
  exact ⟨h2, h3, h4⟩

theorem cutBack_append (side : Side) (k : Nat) (a v b : List Rat) (ha : a.length = if side = .right then 0 else k)
    (hb : b.length = if side = .left then 0 else k) : cutBack side k (a ++ v ++ b) = v := by
  have hhi : (if side = .left then (a ++ v ++ b).length else (a ++ v ++ b).length - k) = (a ++ v).length := by
    rw [List.length_append (as := a ++ v), hb]
    split
    · rfl
    · exact Nat.add_sub_cancel _ _
  rw [cutBack, hhi, ← ha, List.take_left' rfl, List.drop_left' rfl]

theorem sectionIdx_full (n : Nat) (hn : 2 ≤ n) : sectionIdx 0 n 1 = List.range (n + 1) := by
  have h0 : ¬ n = 0 := by omega
  simp only [sectionIdx, Nat.sub_zero, Nat.div_one, if_neg h0, Nat.zero_add, Nat.mul_div_cancel _ (by omega : 0 < n),
    List.map_id']

theorem zip_range_tail (n : Nat) :
    (List.range (n + 1)).zip (List.range (n + 1)).tail = (List.range n).map (fun i => (i, i + 1)) := by
  simpa only [List.map_id, id_eq, Nat.add_sub_cancel] using zip_tail_tab id (n + 1)

theorem customBc_identity_plan (n : Nat) (hn : 2 ≤ n) :
    (customBcPlan n [(0, n, 1)]).sections = (List.range n).map (fun i => (i, i + 1)) ∧
    (customBcPlan n [(0, n, 1)]).mask = List.replicate n false := by
  -- the pairs (0, 1) and (n-1, n) are among the sections, so neither end point is put back into the mask
  have h0 : 0 < n := Nat.lt_of_lt_of_le Nat.zero_lt_two hn
  have h1 : n - 1 + 1 = n := Nat.sub_add_cancel h0
  have hF : (((List.range n).map (fun i => (i, i + 1))).any fun p => p.1 == 0 && p.2 == 1) = true :=
    List.any_eq_true.mpr ⟨(0, 1), List.mem_map.mpr ⟨0, List.mem_range.mpr h0, rfl⟩, rfl⟩
  have hL : (((List.range n).map (fun i => (i, i + 1))).any fun p => p.2 == n && p.1 + 1 == n) = true :=
    List.any_eq_true.mpr ⟨(n - 1, n - 1 + 1), List.mem_map.mpr ⟨n - 1, List.mem_range.mpr (Nat.sub_lt h0 Nat.one_pos), rfl⟩,
      by rw [h1, beq_self_eq_true, Bool.and_self]⟩
  have hmask : ((List.range n).map fun (i : Nat) => if 0 ≤ i ∧ i < n then false else (List.replicate n true).getD i true)
      = List.replicate n false := by
    rw [List.map_congr_left (g := fun _ => false) fun i hi => if_pos ⟨Nat.zero_le i, List.mem_range.mp hi⟩,
      List.map_const', List.length_range]
  simp only [customBcPlan, List.foldl_cons, List.foldl_nil, sectionIdx_full n hn, zip_range_tail, hF, hL, hmask,
    List.nil_append, Bool.not_true, Bool.and_false, Bool.false_eq_true, ↓reduceIte, and_self]

/-- the right-hand side is what core's `List.max?` unfolds to -/
theorem getD_foldMax (rest : List (List Rat)) (n : Nat) (h : ∀ b ∈ rest, b.length = n) (i : Nat) (hi : i < n)
    (acc : List Rat) (hacc : acc.length = n) :
    (rest.foldl (fun acc r => List.zipWith max acc r) acc).getD i 0 = (rest.map (·.getD i 0)).foldl max (acc.getD i 0) := by
  induction rest generalizing acc with
  | nil => rfl
  | cons r rest ih =>
    have hr : r.length = n := h r List.mem_cons_self
    rw [List.foldl_cons, List.map_cons, List.foldl_cons, ← getD_zipWith_of_lt max 0 0 0 (hacc ▸ hi) (hr ▸ hi)]
    exact ih (fun b hb => h b (List.mem_cons_of_mem _ hb)) _ (by rw [List.length_zipWith, hacc, hr, Nat.min_self])

end PbVerif.Lemmas
