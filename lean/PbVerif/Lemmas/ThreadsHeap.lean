import PbVerif.Lemmas.ThreadsCore
/-! C04: a heap of helper objects behind one shared reference (`self._polynomial`).  Objects are never removed and change only
along a relation `E`; the reference stays, or moves to a published object.  So what a thread knows of the helper it is bound to,
or of the one the reference points to, survives the steps of the other threads.  Instances: the 1-D and 2-D polynomial caches. -/
namespace PbVerif.Lemmas.Heap
variable {H : Type}

def At (heap : List H) (h : Nat) (p : H → Prop) : Prop := ∃ x, heap[h]? = some x ∧ p x

theorem At.get {heap : List H} {h : Nat} {p : H → Prop} {x : H} (hA : At heap h p) (hx : heap[h]? = some x) : p x := by
  obtain ⟨y, hy, hp⟩ := hA
  cases hx.symm.trans hy
  exact hp

def Evolves (E : H → H → Prop) (heap heap' : List H) : Prop :=
  ∀ (h : Nat) (x : H), heap[h]? = some x → ∃ x', heap'[h]? = some x' ∧ E x x'

theorem At.stable {E : H → H → Prop} {heap heap' : List H} {h : Nat} {p : H → Prop} (hE : Evolves E heap heap')
    (hp : ∀ x x', E x x' → p x → p x') : At heap h p → At heap' h p :=
  fun ⟨x, h1, h2⟩ => (hE h x h1).imp fun x' h3 => ⟨h3.1, hp x x' h3.2 h2⟩

def RefPub (Pub : H → Prop) (ref : Option Nat) (heap : List H) : Prop := ∃ r, ref = some r ∧ At heap r Pub

/-- a thread that read `h` from the reference: since then the reference can only have moved to a published object -/
def Bound (Pub : H → Prop) (ref : Option Nat) (heap : List H) (h : Nat) : Prop :=
  At heap h (fun _ => True) ∧ (RefPub Pub ref heap ∨ ref = some h)

section stable
variable {E : H → H → Prop} {Pub : H → Prop} {ref ref' : Option Nat} {heap heap' : List H}
  (hE : Evolves E heap heap') (hP : ∀ x x', E x x' → Pub x → Pub x') (hr : ref' = ref ∨ RefPub Pub ref' heap')
include hE hP hr

theorem RefPub.stable : RefPub Pub ref heap → RefPub Pub ref' heap' := by
  rintro ⟨r, h1, h2⟩
  rcases hr with h | h
  · exact ⟨r, h.trans h1, h2.stable hE hP⟩
  · exact h

theorem Bound.stable {h : Nat} : Bound Pub ref heap h → Bound Pub ref' heap' h := by
  rintro ⟨h1, h2 | h2⟩
  · exact ⟨h1.stable hE fun _ _ _ => id, Or.inl (RefPub.stable hE hP hr h2)⟩
  · exact ⟨h1.stable hE fun _ _ _ => id, hr.symm.imp id fun h => h.trans h2⟩

end stable

/-- what `Bound` is for: once `h` itself is published, so is whatever the reference points to -/
theorem Bound.refPub {Pub : H → Prop} {ref : Option Nat} {heap : List H} {h : Nat} (hB : Bound Pub ref heap h)
    (hA : At heap h Pub) : RefPub Pub ref heap :=
  hB.2.elim id fun hr => ⟨h, hr, hA⟩

theorem ref_ne_none {Pub : H → Prop} {ref ref' : Option Nat} {heap' : List H} (hr : ref' = ref ∨ RefPub Pub ref' heap') :
    ref ≠ none → ref' ≠ none := by
  rcases hr with h | ⟨r, h, _⟩ <;> rw [h]
  · exact id
  · exact fun _ => Option.some_ne_none r

theorem getElem?_modify_eq_some {heap : List H} {h j : Nat} {f : H → H} {y : H} :
    (heap.modify h f)[j]? = some y ↔ ∃ x, heap[j]? = some x ∧ (if h = j then f x else x) = y := by
  rw [List.getElem?_modify]
  exact Option.map_eq_some_iff

theorem Evolves.modify {E : H → H → Prop} (hrefl : ∀ x, E x x) {heap : List H} {h : Nat} {f : H → H}
    (hf : ∀ x, heap[h]? = some x → E x (f x)) : Evolves E heap (heap.modify h f) := by
  intro j x hx
  refine ⟨_, getElem?_modify_eq_some.2 ⟨x, hx, rfl⟩, ?_⟩
  split
  · next hj => subst hj; exact hf x hx
  · exact hrefl x

theorem Evolves.append {E : H → H → Prop} (hrefl : ∀ x, E x x) (heap l : List H) : Evolves E heap (heap ++ l) := by
  intro j x hx
  exact ⟨x, by rw [List.getElem?_append_left (List.getElem?_eq_some_iff.1 hx).1]; exact hx, hrefl x⟩

theorem At.modify {heap : List H} {h : Nat} {f : H → H} {p q : H → Prop} (hA : At heap h p) (hpq : ∀ x, p x → q (f x)) :
    At (heap.modify h f) h q :=
  let ⟨x, h1, h2⟩ := hA
  ⟨f x, getElem?_modify_eq_some.2 ⟨x, h1, if_pos rfl⟩, hpq x h2⟩

structure Good (OK : H → Prop) (ref : Option Nat) (heap : List H) : Prop where
  ok : ∀ (h : Nat) (x : H), heap[h]? = some x → OK x
  ref : ∀ r, ref = some r → At heap r fun _ => True

theorem Good.nil {OK : H → Prop} : Good OK none [] := ⟨nofun, nofun⟩

theorem Good.modify {OK : H → Prop} {ref : Option Nat} {heap : List H} (hG : Good OK ref heap) {h : Nat} {f : H → H}
    (hf : ∀ x, heap[h]? = some x → OK x → OK (f x)) : Good OK ref (heap.modify h f) where
  ok j y hy := by
    obtain ⟨x, hx, rfl⟩ := getElem?_modify_eq_some.1 hy
    split
    · next hj => subst hj; exact hf x hx (hG.ok h x hx)
    · exact hG.ok j x hx
  ref r hr := (hG.ref r hr).stable (Evolves.modify (E := fun _ _ => True) (fun _ => trivial) fun _ _ => trivial) fun _ _ _ => id

theorem Good.publish {OK : H → Prop} {ref : Option Nat} {heap : List H} (hG : Good OK ref heap) {x : H} (hx : OK x) :
    Good OK (some heap.length) (heap ++ [x]) where
  ok j y hy := by
    rcases Nat.lt_or_ge j heap.length with hj | hj
    · exact hG.ok j y (by rwa [List.getElem?_append_left hj] at hy)
    · rw [List.getElem?_append_right hj, List.getElem?_singleton] at hy
      split at hy
      · cases hy; exact hx
      · cases hy
  ref r hr := by cases hr; exact ⟨x, List.getElem?_concat_length, trivial⟩

end PbVerif.Lemmas.Heap
