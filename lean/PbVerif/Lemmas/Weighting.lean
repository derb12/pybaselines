import Mathlib.Algebra.Order.Field.Basic
import Mathlib.Order.Monotone.Odd
import PbVerif.Model.Weighting
/-! Lemmas for C09, over any linear ordered field with `exp`, `sqrt`, `abs` as in `TranscOk`.  The reweighting rules are
compositions of a few shapes: `1 / (1 + x)` (expit, brpls), `½(1 − u/d)` with `|u| < d` and `u ↦ u/d` odd and monotone
(drpls, lsrpls, iarpls), a step at 0 with a decaying tail (asls, psalsa, derpsalsa), a clip under `exp` (airpls).  Range
and monotonicity are proved here once per shape; `Props/C09` composes them per rule. -/
namespace PbVerif.Lemmas
open PbVerif.Weighting

variable {α : Type} [Field α] [LinearOrder α]

/-- the assumptions on the transcendental functions: what `exp`, `sqrt`, `|·|` of the reals satisfy -/
structure TranscOk (T : Transc α) : Prop where
  exp_pos : ∀ x, 0 < T.exp x
  exp_mono : ∀ x y, x ≤ y → T.exp x ≤ T.exp y
  exp_zero : T.exp 0 = 1
  sqrt_nonneg : ∀ x, 0 ≤ T.sqrt x
  sqrt_sq : ∀ x, 0 ≤ x → T.sqrt x * T.sqrt x = x
  abs_eq : ∀ x, T.abs x = |x|

variable [IsStrictOrderedRing α]

theorem one_sub_range {p : α} (hp : 0 ≤ p ∧ p ≤ 1) : 0 ≤ 1 - p ∧ 1 - p ≤ 1 :=
  ⟨sub_nonneg.mpr hp.2, sub_le_self 1 hp.1⟩

theorem mul_range {a b : α} (ha : 0 ≤ a ∧ a ≤ 1) (hb : 0 ≤ b ∧ b ≤ 1) : 0 ≤ a * b ∧ a * b ≤ 1 :=
  ⟨mul_nonneg ha.1 hb.1, mul_le_one₀ ha.2 hb.1 hb.2⟩

theorem one_add_pos {x : α} (hx : 0 ≤ x) : 0 < 1 + x := add_pos_of_pos_of_nonneg one_pos hx

theorem recip_range {x : α} (hx : 0 ≤ x) : 0 < 1 / (1 + x) ∧ 1 / (1 + x) ≤ 1 :=
  ⟨one_div_pos.mpr (one_add_pos hx), (div_le_one (one_add_pos hx)).mpr (le_add_of_nonneg_right hx)⟩
theorem recip_anti {x y : α} (hx : 0 ≤ x) (h : x ≤ y) : 1 / (1 + y) ≤ 1 / (1 + x) :=
  one_div_le_one_div_of_le (one_add_pos hx) (add_le_add_right h 1)

theorem div_range {u d : α} (h : |u| < d) : -1 < u / d ∧ u / d < 1 := by
  have hd : 0 < d := (abs_nonneg u).trans_lt h
  rw [lt_div_iff₀ hd, div_lt_iff₀ hd, neg_one_mul, one_mul]
  exact abs_lt.mp h

theorem half_anti {s t : α} (h : s ≤ t) : 1 / 2 * (1 - t) ≤ 1 / 2 * (1 - s) :=
  mul_le_mul_of_nonneg_left (sub_le_sub_left h 1) one_half_pos.le
theorem half_range {s : α} (h : -1 < s ∧ s < 1) : 0 ≤ 1 / 2 * (1 - s) ∧ 1 / 2 * (1 - s) ≤ 1 :=
  ⟨mul_nonneg one_half_pos.le (sub_nonneg.mpr h.2.le),
    (half_anti h.1.le).trans_eq (by rw [sub_neg_eq_add, one_add_one_eq_two, one_div, inv_mul_cancel₀ two_ne_zero])⟩

/-- the argument `K/s·(r − a)` that arpls, aspls (negated) and drpls, lsrpls, iarpls feed to their sigmoid -/
theorem affine_mono {K s : α} (hK : 0 ≤ K) (hs : 0 ≤ s) (a : α) {r₁ r₂ : α} (h : r₁ ≤ r₂) :
    K / s * (r₁ - a) ≤ K / s * (r₂ - a) :=
  mul_le_mul_of_nonneg_left (sub_le_sub_right h a) (div_nonneg hK hs)
theorem affine_anti {K s : α} (hK : 0 ≤ K) (hs : 0 ≤ s) (a : α) {r₁ r₂ : α} (h : r₁ ≤ r₂) :
    -(K / s) * (r₂ - a) ≤ -(K / s) * (r₁ - a) := by
  rw [neg_mul, neg_mul]
  exact neg_le_neg (affine_mono hK hs a h)

omit [IsStrictOrderedRing α] in
theorem step_antitone {a : α → α} {b : α} (hab : ∀ r, 0 < r → a r ≤ b)
    (ha : ∀ r₁ r₂, 0 < r₁ → r₁ ≤ r₂ → a r₂ ≤ a r₁) : Antitone fun r => if 0 < r then a r else b := by
  intro r₁ r₂ h
  dsimp only
  split_ifs with h2 h1 h1
  · exact ha _ _ h1 h
  · exact hab _ h2
  · exact absurd (h1.trans_le h) h2
  · exact le_rfl

omit [IsStrictOrderedRing α] in
/-- the three-way clip of `airplsRaw` is `np.clip(a, 0, M)` -/
theorem clip_eq_min_max {M : α} (hM : 0 ≤ M) (a : α) :
    (if a < 0 then 0 else if M < a then M else a) = min (max a 0) M := by
  split_ifs with h1 h2
  · rw [max_eq_right h1.le, min_eq_left hM]
  · rw [max_eq_left (not_lt.mp h1), min_eq_right h2.le]
  · rw [max_eq_left (not_lt.mp h1), min_eq_left (not_lt.mp h2)]

theorem half_sq_nonneg (u : α) : 0 ≤ 1 / 2 * (u * u) := mul_nonneg one_half_pos.le (mul_self_nonneg u)
theorem half_sq_mono {u v : α} (hu : 0 ≤ u) (h : u ≤ v) : 1 / 2 * (u * u) ≤ 1 / 2 * (v * v) :=
  mul_le_mul_of_nonneg_left (mul_self_le_mul_self hu h) one_half_pos.le

theorem one_add_sq_pos (u : α) : 0 < 1 + u * u := one_add_pos (mul_self_nonneg u)

section transc
variable {T : Transc α} (hT : TranscOk T)
include hT

theorem TranscOk.exp_neg_le_one {x : α} (hx : 0 ≤ x) : T.exp (-x) ≤ 1 :=
  (hT.exp_mono _ 0 (neg_nonpos.mpr hx)).trans_eq hT.exp_zero

omit [IsStrictOrderedRing α] in
theorem TranscOk.sqrt_pos {x : α} (hx : 0 < x) : 0 < T.sqrt x :=
  (hT.sqrt_nonneg x).lt_of_ne fun h => hx.ne (by rw [← hT.sqrt_sq x hx.le, ← h, mul_zero])

theorem TranscOk.sqrt_le_sqrt {x y : α} (hx : 0 ≤ x) (h : x ≤ y) : T.sqrt x ≤ T.sqrt y :=
  (mul_self_le_mul_self_iff (hT.sqrt_nonneg x) (hT.sqrt_nonneg y)).mpr
    (by rwa [hT.sqrt_sq x hx, hT.sqrt_sq y (hx.trans h)])

/-- the denominators `1 + T.abs u` (drpls, lsrpls) and `T.sqrt (1 + u * u)` (iarpls) are written as the rules write them,
so that `div_range`, `half_range`, `half_anti` apply to `drplsW`, `iarplsW` as they stand -/
theorem TranscOk.abs_lt_one_add (u : α) : |u| < 1 + T.abs u := by
  rw [hT.abs_eq]
  exact lt_one_add _

theorem TranscOk.softsign_mono : Monotone fun u : α => u / (1 + T.abs u) := by
  simp only [hT.abs_eq]
  refine monotone_of_odd_of_monotoneOn_nonneg (fun u => by rw [abs_neg, neg_div]) fun u hu v hv huv => ?_
  have key : ∀ w : α, 0 ≤ w → w / (1 + |w|) = 1 - 1 / (1 + w) := fun w hw => by
    rw [abs_of_nonneg hw, eq_sub_iff_add_eq, ← add_div, add_comm, div_self (one_add_pos hw).ne']
  rw [key u hu, key v hv]
  exact sub_le_sub_left (recip_anti hu huv) 1

theorem TranscOk.abs_lt_sqrt (u : α) : |u| < T.sqrt (1 + u * u) := by
  rw [← abs_of_nonneg (hT.sqrt_nonneg _), abs_lt_iff_mul_self_lt, hT.sqrt_sq _ (one_add_sq_pos u).le]
  exact lt_one_add _

/-- on `0 ≤ u ≤ v` compare the squares of `u·√(1+v²)` and `v·√(1+u²)` -/
theorem TranscOk.invsqrt_mono : Monotone fun u : α => u / T.sqrt (1 + u * u) := by
  refine monotone_of_odd_of_monotoneOn_nonneg (fun u => by rw [neg_mul_neg, neg_div]) fun u hu v hv huv => ?_
  have ha := hT.sqrt_pos (one_add_sq_pos u)
  have hb := hT.sqrt_pos (one_add_sq_pos v)
  rw [div_le_div_iff₀ ha hb, mul_self_le_mul_self_iff (mul_nonneg hu hb.le) (mul_nonneg hv ha.le),
    mul_mul_mul_comm, mul_mul_mul_comm v, hT.sqrt_sq _ (one_add_sq_pos u).le, hT.sqrt_sq _ (one_add_sq_pos v).le,
    mul_one_add, mul_one_add, mul_comm (v * v)]
  exact add_le_add_left (mul_self_le_mul_self hu huv) _

/-- the shared shape of psalsa (`g = id`) and derpsalsa (`g u = u²/2`) -/
theorem tail_range {p k : α} (g : α → α) (r : α) (hp : 0 ≤ p ∧ p ≤ 1) (hk : 0 < k) (hg : ∀ u, 0 ≤ u → 0 ≤ g u) :
    0 ≤ (if 0 < r then p * T.exp (-g (r / k)) else 1 - p) ∧ (if 0 < r then p * T.exp (-g (r / k)) else 1 - p) ≤ 1 := by
  split_ifs with hr
  · exact mul_range hp ⟨(hT.exp_pos _).le, hT.exp_neg_le_one (hg _ (div_nonneg hr.le hk.le))⟩
  · exact one_sub_range hp
theorem tail_antitone {p k : α} (g : α → α) (hp : 0 ≤ p ∧ p ≤ 1 - p) (hk : 0 < k) (hg0 : ∀ u, 0 ≤ u → 0 ≤ g u)
    (hg : ∀ u v, 0 ≤ u → u ≤ v → g u ≤ g v) :
    Antitone fun r => if 0 < r then p * T.exp (-g (r / k)) else 1 - p :=
  step_antitone
    (fun _ hr => (mul_le_of_le_one_right hp.1 (hT.exp_neg_le_one (hg0 _ (div_nonneg hr.le hk.le)))).trans hp.2)
    fun _ _ h1 h => mul_le_mul_of_nonneg_left (hT.exp_mono _ _ (neg_le_neg
      (hg _ _ (div_nonneg h1.le hk.le) (div_le_div_of_nonneg_right h hk.le)))) hp.1

end transc

theorem tenK_nonneg (it : Nat) : 0 ≤ (tenK it : α) := pow_nonneg (Nat.cast_nonneg (α := α) 10) _
theorem airplsT_nonneg (it : Nat) : 0 ≤ (airplsT it : α) := Nat.cast_nonneg _

variable [T : Transc α] (hT : TranscOk T)
include hT

omit [IsStrictOrderedRing α] in
theorem expK_pos (it : Nat) : 0 < (expK it : α) := hT.exp_pos _

theorem expit_range (x : α) : 0 < expit x ∧ expit x ≤ 1 := recip_range (hT.exp_pos _).le
theorem expit_mono : Monotone (expit : α → α) := fun _ _ h =>
  recip_anti (hT.exp_pos _).le (hT.exp_mono _ _ (neg_le_neg h))

theorem quantile_bounds (q eps r : α) (hq : 0 < q ∧ q < 1) (he : 0 < eps) :
    0 < quantileW q eps r ∧ quantileW q eps r * Transc.sqrt eps ≤ max q (1 - q) := by
  have hd := hT.sqrt_pos (add_pos_of_nonneg_of_pos (mul_self_nonneg r) he)
  have hn : 0 < (if 0 < r then q else 1 - q) ∧ (if 0 < r then q else 1 - q) ≤ max q (1 - q) := by
    split_ifs
    exacts [⟨hq.1, le_max_left _ _⟩, ⟨sub_pos.mpr hq.2, le_max_right _ _⟩]
  unfold quantileW
  rw [div_mul_eq_mul_div, div_le_iff₀ hd]
  exact ⟨div_pos hn.1 hd, mul_le_mul hn.2 (hT.sqrt_le_sqrt he.le (le_add_of_nonneg_left (mul_self_nonneg r)))
    (hT.sqrt_nonneg _) (hn.1.le.trans hn.2)⟩

end PbVerif.Lemmas
