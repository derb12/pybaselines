import PbVerif.Model.LoopTbl
import Mathlib.Algebra.Order.Group.Int
import Mathlib.Algebra.Order.Monoid.Unbundled.MinMax
import Mathlib.Data.List.Nodup
import Mathlib.Data.List.Flatten
/-! The two-level rows (`NestRow`: brpls family, goldindec) of the table interpreter, for every row that meets `NestRow.ok`.  One
account per level of what it appends to the record; the outer loop is walked once into a description of the record it returns (`Rec`,
`nrun_rec`), and the rest is about lists: memory safety is a structural induction on `Rec`, "no entry written twice" holds because the
record is a sublist of the enumeration `grid` of all entries the loops can reach, which has no repetition. -/
namespace PbVerif.Lemmas.LoopNest
open PbVerif.LoopTbl

theorem nbody_spec (tol : Rat) (d : Nat → Nat → Rat) (fl : Nat → Nat → Nat → Bool) (a k : Nat)
    (es : List NEv) (wr : Bool) (p : Nat) (w : List (Int × Int)) (hok : nbodyOk es wr = true) :
    ∃ ws, ws <+: es.filterMap NEv.wr? ∧
      (nbody tol d fl a k es p w).1 = w ++ ws.map (fun e => ((a : Int) + e.1, (k : Int) + e.2)) ∧
      ((nbody tol d fl a k es p w).2 = none → ws = es.filterMap NEv.wr?) ∧
      ∀ j, (nbody tol d fl a k es p w).2 = some j → j = (k : Int) ∨ (wr = false ∧ j = (k : Int) - 1 ∧ ws = []) := by
  -- the four equations of `nbody`: end of the body, a write, a break that fires, a break that does not
  fun_induction nbody tol d fl a k es p w generalizing wr with
  | case1 p w => exact ⟨[], List.nil_prefix, (List.append_nil w).symm, fun _ => rfl, nofun⟩
  | case2 ro co es p w ih =>
    obtain ⟨ws, h1, h2, h3, h4⟩ := ih true hok
    refine ⟨(ro, co) :: ws, List.cons_prefix_cons.mpr ⟨rfl, h1⟩, ?_, fun h => congrArg _ (h3 h),
      fun j hj => .inl ((h4 j hj).resolve_right fun h => Bool.noConfusion h.1)⟩
    rw [h2, List.append_assoc]
    rfl
  | case3 t dec es p w hf =>
    simp only [nbodyOk, Bool.and_eq_true] at hok
    refine ⟨[], List.nil_prefix, (List.append_nil w).symm, nofun, fun j hj => ?_⟩
    obtain rfl := Option.some.inj hj
    cases wr
    · simp only [Bool.false_eq_true, if_false, decide_eq_true_eq] at hok
      rcases Nat.le_one_iff_eq_zero_or_eq_one.mp hok.1 with rfl | rfl
      · exact .inl (Int.sub_zero _)
      · exact .inr ⟨rfl, rfl, rfl⟩
    · simp only [if_true, beq_iff_eq] at hok
      exact .inl (by rw [hok.1]; exact Int.sub_zero _)
  | case4 t dec es p w hf ih =>
    simp only [nbodyOk, Bool.and_eq_true] at hok
    exact ih wr hok.2

/-- the entries the inner loop can write in outer step `a`, inner steps `k ≤ k' < k + s`, in program order: `(a + ro, k' + co)` for each
write event `(ro, co)` of its body -/
def cells (r : NestRow) (a k s : Nat) : List (Int × Int) :=
  (List.range' k s).flatMap fun k' : Nat => (r.ibody.filterMap NEv.wr?).map fun e => ((a : Int) + e.1, (k' : Int) + e.2)

/-- the inner loop writes only in steps up to the final `j` -/
theorem nloop_writes (r : NestRow) (hok : nbodyOk r.ibody false = true)
    (tol : Rat) (d : Nat → Nat → Rat) (fl : Nat → Nat → Nat → Bool) (a : Nat) :
    ∀ (f k : Nat) (w : List (Int × Int)), ∃ (s : Nat) (l : List (Int × Int)),
      (nloop r tol d fl a f k w).1 = w ++ l ∧ l.Sublist (cells r a k s) ∧
      (k : Int) + (s : Int) - 1 ≤ (nloop r tol d fl a f k w).2 ∧ (nloop r tol d fl a f k w).2 ≤ (k : Int) + (f : Int) - 1 := by
  intro f
  induction f with
  | zero => intro k w; exact ⟨0, [], (List.append_nil w).symm, List.Sublist.refl _, by rw [nloop]; omega, by rw [nloop]; omega⟩
  | succ f ih =>
    intro k w
    obtain ⟨ws, h1, h2, h3, hj⟩ := nbody_spec tol d fl a k r.ibody false 0 w hok
    rw [nloop]
    generalize nbody tol d fl a k r.ibody 0 w = bd at h2 h3 hj
    obtain ⟨w', o⟩ := bd
    simp only at h2 h3 hj
    cases o with
    | some j =>
      rcases hj j rfl with h | ⟨-, h, rfl⟩
      · refine ⟨1, _, h2, ?_, by simp only; omega, by simp only; omega⟩
        rw [cells, List.range'_one, List.flatMap_singleton]
        exact h1.sublist.map _
      · exact ⟨0, [], h2, List.Sublist.refl _, by simp only; omega, by simp only; omega⟩
    | none =>
      obtain ⟨s, l, e, hl, hs, hf⟩ := ih (k + 1) w'
      refine ⟨s + 1, _, by rw [e, h2, h3 rfl, List.append_assoc], ?_, by simp only; omega, by simp only; omega⟩
      rw [cells, List.range'_succ, List.flatMap_cons]
      exact (List.Sublist.refl _).append hl

theorem otail_writes (r : NestRow) (m : Nat) (tol : Rat) (d : Nat → Nat → Rat) (fl : Nat → Nat → Nat → Bool) (ofl : Nat → Nat → Bool) (a : Nat) :
    ∀ (tl : List OEv) (p : Nat) (s : OSt), tl.all (OEv.tailOk r) = true →
      (obody r m tol d fl ofl a tl p s).1.j = s.j ∧ (obody r m tol d fl ofl a tl p s).1.jmax = s.jmax ∧
      (obody r m tol d fl ofl a tl p s).1.raised = s.raised ∧
      ∃ ws, ws <+: tl.filterMap OEv.wr? ∧
        (obody r m tol d fl ofl a tl p s).1.writes = s.writes ++ ws.map fun e => (e.1, (a : Int) + e.2) := by
  intro tl
  induction tl with
  | nil => intro p s _; exact ⟨rfl, rfl, rfl, [], List.nil_prefix, (List.append_nil _).symm⟩
  | cons e tl ih =>
    intro p s h
    simp only [List.all_cons, Bool.and_eq_true] at h
    cases e with
    | inner => exact (Bool.false_ne_true h.1).elim
    | jmax => exact (Bool.false_ne_true h.1).elim
    | write row co =>
      obtain ⟨h1, h2, h3, ws, h4, h5⟩ := ih (p + 1) { s with writes := s.writes ++ [(row, (a : Int) + co)] } h.2
      refine ⟨h1, h2, h3, (row, co) :: ws, List.cons_prefix_cons.mpr ⟨rfl, h4⟩, ?_⟩
      rw [obody, h5, List.append_assoc]
      rfl
    | brk =>
      rw [obody]
      split
      · exact ⟨rfl, rfl, rfl, [], List.nil_prefix, (List.append_nil _).symm⟩
      · exact ih (p + 1) s h.2

theorem tail_eq {r : NestRow} {tl : List OEv} (h : r.tail = some tl) : r.outer = .inner :: .jmax :: tl := by
  unfold NestRow.tail at h
  split at h
  · rename_i e1 e2 tl' ho
    split at h
    · rename_i hc
      simp only [Option.some.injEq] at h
      rw [ho, hc.1, hc.2, h]
    · simp at h
  · simp at h

structure Ok (r : NestRow) : Prop where
  zeroed : r.zeroed = true
  ibody : nbodyOk r.ibody false = true
  inb : r.ibody.all (NEv.inb r) = true
  outer : ∃ tl, r.outer = .inner :: .jmax :: tl ∧ tl.all (OEv.tailOk r) = true
  srow : 0 ≤ r.srow ∧ r.ohi - 1 + r.srow ≤ r.rows
  scol : 0 ≤ r.scol ∧ r.ohi - 1 + r.scol ≤ r.colc ∧ r.ihi - 1 + r.scol ≤ r.colc ∧ r.jmax0 + r.scol ≤ r.colc + 1 - r.ihi

theorem Ok.of_ok {r : NestRow} (h : r.ok = true) : Ok r := by
  simp only [NestRow.ok, Bool.and_eq_true, decide_eq_true_eq] at h
  obtain ⟨⟨⟨⟨⟨⟨⟨⟨⟨hz, hb⟩, hin⟩, ht⟩, s1⟩, s2⟩, c1⟩, c2⟩, c3⟩, c4⟩ := h
  refine ⟨hz, hb, hin, ?_, ⟨s1, s2⟩, ⟨c1, c2, c3, c4⟩⟩
  split at ht
  · rename_i tl h'; exact ⟨tl, tail_eq h', ht⟩
  · exact absurd ht Bool.false_ne_true

/-- The record after `a` outer steps, with `j_max = J`.  Outer step `a` appends, in program order, some of the entries `(a + ro, k + co)`
(`(ro, co)` a write event of the inner body, `k < s` an inner step, where the inner loop of `n` steps leaves `s - 1 ≤ j < n`), then
`(row, a + co)` for the first few write events `(row, co)` of the outer body. -/
inductive Rec (r : NestRow) (n : Nat) : Nat → List (Int × Int) → Int → Prop
  | zero : Rec r n 0 [] r.jmax0
  | step {a s : Nat} {w l ws : List (Int × Int)} {J j : Int} : Rec r n a w J →
      l.Sublist (cells r a 0 s) → (s : Int) - 1 ≤ j → j ≤ (n : Int) - 1 → ws <+: r.outer.filterMap OEv.wr? →
      Rec r n (a + 1) (w ++ l ++ ws.map fun e => (e.1, (a : Int) + e.2)) (max j J)

/-- the outer loop is walked once: what it returns, after `b` outer steps in all, is such a record -/
theorem oloop_rec {r : NestRow} (hok : Ok r) {m : Nat} (hz : ((m : Int) + r.ihi).toNat ≠ 0) (tol : Rat) (d : Nat → Nat → Rat)
    (fl : Nat → Nat → Nat → Bool) (ofl : Nat → Nat → Bool) :
    ∀ (f a : Nat) (s : OSt), s.raised = false → 0 < a + f → Rec r ((m : Int) + r.ihi).toNat a s.writes s.jmax →
      ∃ (b : Nat) (w : List (Int × Int)) (J : Int), 0 < b ∧ b ≤ a + f ∧ Rec r ((m : Int) + r.ihi).toNat b w J ∧
        oloop r m tol d fl ofl f a s = ⟨false, w, (b : Int) - 1 + r.srow, max ((b : Int) - 1) J + r.scol, b⟩ := by
  obtain ⟨tl, houter, htl⟩ := hok.outer
  intro f
  induction f with
  | zero => intro a s _ ha hs; exact ⟨a, s.writes, s.jmax, ha, Nat.le_refl _, hs, rfl⟩
  | succ f ih =>
    intro a s hr _ hs
    rw [oloop, houter]
    simp only [obody, hz, if_false]
    obtain ⟨s', l, e, hl, hs', hj⟩ := nloop_writes r hok.ibody tol d fl a ((m : Int) + r.ihi).toNat 0 s.writes
    generalize nloop r tol d fl a ((m : Int) + r.ihi).toNat 0 s.writes = nl at e hs' hj
    obtain ⟨w1, j1⟩ := nl
    simp only at e hs' hj
    -- `tl` starts at position 2 of the outer body
    obtain ⟨-, hjm, hrs, ws, hws, hw2⟩ := otail_writes r m tol d fl ofl a tl 2
      { writes := w1, j := some j1, jmax := max j1 s.jmax, raised := s.raised } htl
    have hs2 := hs.step (j := j1) hl (by omega) (by omega) (by rw [houter]; exact hws)
    generalize obody r m tol d fl ofl a tl 2 { writes := w1, j := some j1, jmax := max j1 s.jmax, raised := s.raised } = ob
      at hjm hrs hw2
    obtain ⟨s2, brk⟩ := ob
    simp only at hjm hrs hw2
    rw [← e, ← hw2, ← hjm] at hs2
    cases brk with
    | true =>
      simp only [hrs, hr, Bool.false_eq_true, if_false]
      exact ⟨a + 1, s2.writes, s2.jmax, Nat.succ_pos a, by omega, hs2, by rw [Int.natCast_succ, Int.add_sub_cancel]⟩
    | false =>
      obtain ⟨b, w, J, hb0, hb, hPb, e⟩ := ih (a + 1) s2 (hrs.trans hr) (Nat.add_pos_left (Nat.succ_pos a) f) hs2
      exact ⟨b, w, J, hb0, by omega, hPb, e⟩

/-- an empty inner range: `j` is unbound at `j_max = max(j, j_max)` in the first outer step (NameError) -/
theorem nrun_empty_inner {r : NestRow} (hok : Ok r) {m m2 : Nat} (hn : ((m2 : Int) + r.ohi).toNat ≠ 0) (hz : ((m : Int) + r.ihi).toNat = 0)
    (tol : Rat) (d : Nat → Nat → Rat) (fl : Nat → Nat → Nat → Bool) (ofl : Nat → Nat → Bool) :
    nrun r m m2 tol d fl ofl = ⟨true, [], 0, 0, 1⟩ := by
  obtain ⟨tl, ho, -⟩ := hok.outer
  obtain ⟨f, hf⟩ := Nat.exists_eq_succ_of_ne_zero hn
  simp only [nrun, hf, Nat.succ_eq_add_one, oloop, ho, obody, hz, if_true]
  simp

theorem nrun_rec {r : NestRow} (hok : Ok r) {m m2 : Nat} (hn : ((m2 : Int) + r.ohi).toNat ≠ 0) (hz : ((m : Int) + r.ihi).toNat ≠ 0)
    (tol : Rat) (d : Nat → Nat → Rat) (fl : Nat → Nat → Nat → Bool) (ofl : Nat → Nat → Bool) :
    ∃ (b : Nat) (w : List (Int × Int)) (J : Int), 0 < b ∧ b ≤ ((m2 : Int) + r.ohi).toNat ∧ Rec r ((m : Int) + r.ihi).toNat b w J ∧
      nrun r m m2 tol d fl ofl = ⟨false, w, (b : Int) - 1 + r.srow, max ((b : Int) - 1) J + r.scol, b⟩ := by
  rw [nrun, if_neg hn]
  simpa only [Nat.zero_add] using oloop_rec hok hz tol d fl ofl ((m2 : Int) + r.ohi).toNat 0 ⟨[], none, r.jmax0, false⟩
    rfl (by omega) .zero

/-! ### memory safety -/

/-- `x` is inside the slice `[:b + srow, :max(b, J) + scol]` taken when the loop stops in outer step `b` with `j_max = J`; that this
slice is inside the allocation is said once, of the slice (`ngood_of_wfin`) -/
def Wfin (r : NestRow) (b J : Int) (x : Int × Int) : Prop :=
  0 ≤ x.1 ∧ 0 ≤ x.2 ∧ x.1 < b + r.srow ∧ x.2 < max b J + r.scol

theorem Wfin.mono {r : NestRow} {b b' J J' : Int} {x : Int × Int} (hb : b ≤ b') (hJ : J ≤ J') (h : Wfin r b J x) : Wfin r b' J' x :=
  ⟨h.1, h.2.1, lt_of_lt_of_le h.2.2.1 (Int.add_le_add_right hb _), lt_of_lt_of_le h.2.2.2 (Int.add_le_add_right (max_le_max hb hJ) _)⟩

theorem Wfin.inner {r : NestRow} {es : List NEv} (hin : es.all (NEv.inb r) = true) {e : Int × Int}
    (he : e ∈ es.filterMap NEv.wr?) {a k J : Int} (ha0 : 0 ≤ a) (hk0 : 0 ≤ k) (hkJ : k ≤ J) : Wfin r a J (a + e.1, k + e.2) := by
  obtain ⟨_ | _, hev, ⟨⟩⟩ := List.mem_filterMap.mp he
  have he := List.all_eq_true.mp hin _ hev
  simp only [NEv.inb, Bool.and_eq_true, decide_eq_true_eq] at he
  simp only [Wfin]
  omega

theorem Wfin.outer {r : NestRow} {tl : List OEv} (htl : tl.all (OEv.tailOk r) = true) {e : Int × Int}
    (he : e ∈ tl.filterMap OEv.wr?) {a : Int} (ha0 : 0 ≤ a) (J : Int) : Wfin r a J (e.1, a + e.2) := by
  obtain ⟨_ | _ | _ | _, hev, ⟨⟩⟩ := List.mem_filterMap.mp he
  have he := List.all_eq_true.mp htl _ hev
  simp only [OEv.tailOk, Bool.and_eq_true, decide_eq_true_eq] at he
  simp only [Wfin]
  omega

structure NGood (r : NestRow) (m m2 : Nat) (res : NRes) : Prop where
  notRaised : res.raised = false
  writes : ∀ x ∈ res.writes, 0 ≤ x.1 ∧ x.1 < r.allocRows m2 ∧ 0 ≤ x.2 ∧ x.2 < r.allocCols m m2 ∧ x.1 < res.srow ∧ x.2 < res.scol
  srow_in : 0 ≤ res.srow ∧ res.srow ≤ r.allocRows m2
  scol_in : 0 ≤ res.scol ∧ res.scol ≤ r.allocCols m m2

theorem ngood_of_wfin {r : NestRow} (hok : Ok r) {m m2 : Nat} (hm : 1 ≤ (m : Int) + r.ihi) {b J : Int} (hb0 : 0 ≤ b)
    (hb : b ≤ (m2 : Int) + r.ohi - 1) (hJ : J ≤ max r.jmax0 ((m : Int) + r.ihi - 1)) {w : List (Int × Int)}
    (hw : ∀ x ∈ w, Wfin r b J x) (st : Nat) : NGood r m m2 ⟨false, w, b + r.srow, max b J + r.scol, st⟩ := by
  have s := hok.srow
  have c := hok.scol
  have hb' : b + r.scol ≤ (m2 : Int) + r.colc := by omega
  have hJ' : J + r.scol ≤ (m : Int) + r.colc := by omega
  have hr : b + r.srow ≤ r.allocRows m2 := by
    show b + r.srow ≤ (m2 : Int) + r.rows
    omega
  have hc : max b J + r.scol ≤ r.allocCols m m2 := by
    show max b J + r.scol ≤ max (m : Int) (m2 : Int) + r.colc
    rw [← max_add_add_right]
    exact max_le (hb'.trans (Int.add_le_add_right (le_max_right _ _) _)) (hJ'.trans (Int.add_le_add_right (le_max_left _ _) _))
  exact ⟨rfl, fun x hx => let ⟨h1, h2, h3, h4⟩ := hw x hx; ⟨h1, lt_of_lt_of_le h3 hr, h2, lt_of_lt_of_le h4 hc, h3, h4⟩,
    ⟨Int.add_nonneg hb0 s.1, hr⟩, Int.add_nonneg (le_max_of_le_left hb0) c.1, hc⟩

/-- every entry is inside the slice a stop in the last completed outer step would take; `j_max` is its initial value or a value `j` has taken -/
theorem Rec.safe {r : NestRow} (hok : Ok r) {n a : Nat} {w : List (Int × Int)} {J : Int} (h : Rec r n a w J) :
    (∀ x ∈ w, Wfin r ((a : Int) - 1) J x) ∧ J ≤ max r.jmax0 ((n : Int) - 1) := by
  obtain ⟨tl, houter, htl⟩ := hok.outer
  induction h with
  | zero => exact ⟨nofun, le_max_left _ _⟩
  | @step a s w l ws J j _ hl hs hj hws ih =>
    refine ⟨fun x hx => ?_, max_le (le_max_of_le_right hj) ih.2⟩
    rw [Int.natCast_succ, Int.add_sub_cancel]
    rw [List.append_assoc, List.mem_append, List.mem_append, List.mem_map] at hx
    rcases hx with hx | hx | ⟨e, he, rfl⟩
    · exact (ih.1 x hx).mono (Int.sub_le_self _ Int.one_nonneg) (le_max_right _ _)
    · obtain ⟨k', hk', hx⟩ := List.mem_flatMap.mp (hl.subset hx)
      obtain ⟨e, he, rfl⟩ := List.mem_map.mp hx
      have := (List.mem_range'_1.mp hk').2
      exact Wfin.inner hok.inb he (Int.natCast_nonneg a) (Int.natCast_nonneg k') (le_max_of_le_left (by omega))
    · rw [houter] at hws
      exact Wfin.outer htl (hws.subset he) (Int.natCast_nonneg a) _

theorem nrun_good {r : NestRow} (hok : r.ok = true) {m m2 : Nat} (h : ¬((m2 : Int) + r.ohi ≤ 0 ∨ (m : Int) + r.ihi ≤ 0)) (tol : Rat)
    (d : Nat → Nat → Rat) (fl : Nat → Nat → Nat → Bool) (ofl : Nat → Nat → Bool) : NGood r m m2 (nrun r m m2 tol d fl ofl) := by
  rw [not_or, not_le, not_le] at h
  have hok := Ok.of_ok hok
  obtain ⟨b, w, J, hb0, hb, hs, e⟩ := nrun_rec hok (m := m) (m2 := m2) (by omega) (by omega) tol d fl ofl
  rw [e]
  have hs := hs.safe hok
  rw [Int.toNat_of_nonneg (Int.le_of_lt h.2)] at hs
  exact ngood_of_wfin hok h.2 (by omega) (by omega) hs.2 hs.1 b

theorem nrun_raised_iff {r : NestRow} (hok : r.ok = true) (m m2 : Nat) (tol : Rat) (d : Nat → Nat → Rat) (fl : Nat → Nat → Nat → Bool)
    (ofl : Nat → Nat → Bool) : (nrun r m m2 tol d fl ofl).raised = true ↔ ((m2 : Int) + r.ohi ≤ 0 ∨ (m : Int) + r.ihi ≤ 0) := by
  refine ⟨fun h => by_contra fun hn => ?_, fun h => ?_⟩
  · rw [(nrun_good hok hn tol d fl ofl).notRaised] at h
    cases h
  · by_cases hn : ((m2 : Int) + r.ohi).toNat = 0
    · rw [nrun, if_pos hn]
    · rw [nrun_empty_inner (Ok.of_ok hok) hn (by omega)]

/-! ### no entry is written twice (`NestRow.distinct`) -/

theorem distinct_spec {r : NestRow} (h : r.distinct = true) :
    ∃ ro co, r.ibody.filterMap NEv.wr? = [(ro, co)] ∧
      ((r.outer.filterMap OEv.wr?).map (·.1)).Nodup ∧ ∀ e ∈ r.outer.filterMap OEv.wr?, e.1 < ro := by
  unfold NestRow.distinct at h
  split at h
  · rename_i ro co tl h1 h2
    simp only [Bool.and_eq_true, List.all_eq_true, decide_eq_true_eq] at h
    refine ⟨ro, co, h1, ?_⟩
    rw [tail_eq h2]
    change ((tl.filterMap OEv.wr?).map (·.1)).Nodup ∧ _
    exact ⟨by simpa using h.1, h.2⟩
  · simp at h

/-- every entry the two loops can write in `b` outer steps of `n` inner steps each, in program order -/
def grid (r : NestRow) (n b : Nat) : List (Int × Int) :=
  (List.range b).flatMap fun a : Nat => cells r a 0 n ++ (r.outer.filterMap OEv.wr?).map fun e => (e.1, (a : Int) + e.2)

theorem Rec.sublist_grid {r : NestRow} {n a : Nat} {w : List (Int × Int)} {J : Int} (h : Rec r n a w J) : w.Sublist (grid r n a) := by
  induction h with
  | zero => exact .slnil
  | @step a s w l ws J j _ hl hs hj hws ih =>
    rw [grid, List.range_succ, List.flatMap_append, List.flatMap_singleton, List.append_assoc]
    exact ih.append ((hl.trans ((List.range'_sublist_right.mpr (show s ≤ n by omega)).flatMap _)).append (hws.sublist.map _))

/-- an entry of the grid determines the step and the event that writes it: the inner loop fills row `a + ro` left to right, the outer
writes go to their own constant rows below `ro`, one column per outer step -/
theorem grid_nodup {r : NestRow} {ro co : Int} (hw : r.ibody.filterMap NEv.wr? = [(ro, co)])
    (hnd : ((r.outer.filterMap OEv.wr?).map (·.1)).Nodup) (hlt : ∀ e ∈ r.outer.filterMap OEv.wr?, e.1 < ro) (n b : Nat) :
    (grid r n b).Nodup := by
  have hinj := List.inj_on_of_nodup_map hnd
  simp only [grid, cells, hw, List.map_cons, List.map_nil, ← List.map_eq_flatMap]
  refine List.nodup_flatMap.mpr ⟨fun a _ => List.nodup_append.mpr ⟨?_, ?_, ?_⟩,
    List.nodup_range.pairwise_of_forall_ne fun a _ a' _ hne x hx hx' => ?_⟩
  · exact (List.nodup_range' 1).map fun x y h => Int.ofNat_inj.mp ((Int.add_left_inj co).mp (Prod.mk.inj h).2)
  · exact (List.Nodup.of_map _ hnd).map_on fun x hx y hy h => hinj hx hy (Prod.mk.inj h).1
  · rintro x hx _ hy rfl
    obtain ⟨k, -, rfl⟩ := List.mem_map.mp hx
    obtain ⟨e, he, h⟩ := List.mem_map.mp hy
    have := hlt e he
    have := (Prod.mk.inj h).1
    omega
  · simp only [List.mem_append, List.mem_map] at hx hx'
    rcases hx with ⟨k, -, rfl⟩ | ⟨e, he, rfl⟩ <;> rcases hx' with ⟨k', -, h⟩ | ⟨e', he', h⟩ <;> have h1 := (Prod.mk.inj h).1
    · exact hne (by omega)
    · have := hlt e' he'; omega
    · have := hlt e he; omega
    · obtain rfl := hinj he' he h1
      have := (Prod.mk.inj h).2
      exact hne (by omega)

theorem nrun_nodup (r : NestRow) (hok : r.ok = true) (hd : r.distinct = true) (m m2 : Nat) (tol : Rat) (d : Nat → Nat → Rat)
    (fl : Nat → Nat → Nat → Bool) (ofl : Nat → Nat → Bool) : (nrun r m m2 tol d fl ofl).writes.Nodup := by
  by_cases hn : ((m2 : Int) + r.ohi).toNat = 0
  · rw [nrun, if_pos hn]
    exact List.nodup_nil
  have hok := Ok.of_ok hok
  by_cases hz : ((m : Int) + r.ihi).toNat = 0
  · rw [nrun_empty_inner hok hn hz]
    exact List.nodup_nil
  obtain ⟨ro, co, hw, hnd, hlt⟩ := distinct_spec hd
  obtain ⟨b, w, J, -, -, h, e⟩ := nrun_rec hok hn hz tol d fl ofl
  rw [e]
  exact h.sublist_grid.nodup (grid_nodup hw hnd hlt _ _)

end PbVerif.Lemmas.LoopNest
