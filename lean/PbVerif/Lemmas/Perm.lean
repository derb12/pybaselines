import PbVerif.Model.Perm
import PbVerif.Lemmas.ListAux
/-! Lemmas for C02. Index lists act on arrays by `takeL` (NumPy's `a[idx]`): `takeL_takeL` is the
composition law, `range n` the identity, and on the permutations of `range n` `invertedSort` is the
inverse. `argsort x` is the one permutation that sorts x stably (`argsort_stable`, `argsort_unique`), hence the identity
on sorted x, and on a permuted x the old order composed with the permutation (`argsort_takeL`). The equivariance of the
wrappers is these laws. -/
namespace PbVerif.Lemmas
open PbVerif.Perm

theorem perm_range_lt {σ : List Nat} {n : Nat} (h : σ.Perm (List.range n)) : ∀ i ∈ σ, i < n :=
  fun _ hi => List.mem_range.1 (h.mem_iff.1 hi)

theorem perm_range_nodup {σ : List Nat} {n : Nat} (h : σ.Perm (List.range n)) : σ.Nodup :=
  h.nodup_iff.2 List.nodup_range

theorem perm_range_length {σ : List Nat} {n : Nat} (h : σ.Perm (List.range n)) : σ.length = n := by
  simpa using h.length_eq

theorem perm_range_self_length {σ : List Nat} {n : Nat} (h : σ.Perm (List.range n)) :
    σ.Perm (List.range σ.length) := by rwa [perm_range_length h]

theorem perm_range_append {a b : List Nat} {m k : Nat} (ha : a.Perm (List.range m)) (hb : b.Perm (List.range k)) :
    (a ++ b.map (· + m)).Perm (List.range (m + k)) := by
  rw [List.range_add]
  exact ha.append ((hb.map _).trans (.of_eq (List.map_congr_left fun i _ => Nat.add_comm i m)))

@[simp] theorem takeL_length {α} (a : List α) (d : α) (idx : List Nat) :
    (takeL a d idx).length = idx.length := by simp [takeL]

theorem getD_takeL {α} (a : List α) (d d' : α) {idx : List Nat} {i : Nat} (hi : i < idx.length) :
    (takeL a d idx).getD i d' = a.getD (idx.getD i 0) d := getD_map_of_lt _ 0 d' hi

theorem takeL_range_right {α} (a : List α) (d : α) {n : Nat} (h : a.length = n) :
    takeL a d (List.range n) = a := h ▸ map_getD_range a d

theorem takeL_range_left {n : Nat} {idx : List Nat} (h : ∀ i ∈ idx, i < n) :
    takeL (List.range n) 0 idx = idx :=
  (List.map_congr_left fun i hi => getD_range 0 (h i hi)).trans (List.map_id' idx)

theorem takeL_eq_range {a idx : List Nat} {n : Nat} (hl : idx.length = n)
    (h : ∀ i, i < n → a.getD (idx.getD i 0) 0 = i) : takeL a 0 idx = List.range n := by
  subst hl
  refine ext_getD 0 (by simp) fun i hi => ?_
  have hi : i < idx.length := by simpa using hi
  rw [getD_takeL _ _ _ hi, h i hi, getD_range 0 hi]

theorem takeL_map {α β} (l : List α) (f : α → β) (d : α) (d' : β) (idx : List Nat)
    (h : ∀ i ∈ idx, i < l.length) : takeL (l.map f) d' idx = (takeL l d idx).map f := by
  unfold takeL
  rw [List.map_map]
  exact List.map_congr_left fun i hi => getD_map_of_lt f d d' (h i hi)

/-- composition (all it needs is `∀ i ∈ idx, i < π.length`); `takeL a d π` unfolds to `π.map (a.getD · d)` -/
theorem takeL_takeL {α} (a : List α) (d : α) {π idx : List Nat} {n : Nat} (hπ : π.Perm (List.range n))
    (hi : idx.Perm (List.range n)) : takeL (takeL a d π) d idx = takeL a d (takeL π 0 idx) :=
  takeL_map π (a.getD · d) 0 d idx (perm_range_length hπ ▸ perm_range_lt hi)

theorem mem_takeL {α} {a : List α} {d : α} {idx : List Nat} (h : ∀ i ∈ idx, i < a.length)
    {r : α} (hr : r ∈ takeL a d idx) : r ∈ a := by
  obtain ⟨i, hi, rfl⟩ := List.mem_map.1 hr
  exact getD_mem d (h i hi)

theorem takeL_perm {α} (a : List α) (d : α) {τ : List Nat} {n : Nat} (h : τ.Perm (List.range n))
    (ha : a.length = n) : (takeL a d τ).Perm a := by
  subst ha
  have := h.map (fun i => a.getD i d)
  rwa [map_getD_range] at this


/-! ### `invertedSort` is the inverse -/

theorem scatterUpTo_length (σ : List Nat) (k : Nat) : (scatterUpTo σ k).length = σ.length := by
  induction k with
  | zero => simp [scatterUpTo]
  | succ k ih => simp [scatterUpTo, ih]

theorem scatterUpTo_spec (σ : List Nat) (hn : σ.Nodup) (hlt : ∀ i ∈ σ, i < σ.length) (k : Nat)
    (hk : k ≤ σ.length) (i : Nat) (hi : i < k) :
    (scatterUpTo σ k).getD (σ.getD i 0) 0 = i := by
  induction k with
  | zero => omega
  | succ k ih =>
    have hil : i < σ.length := Nat.lt_of_lt_of_le hi hk
    rw [scatterUpTo, getD_set]
    split
    · next e => exact getD_inj_of_nodup hn 0 hk hil e.1
    · next e =>
      -- step `k` wrote elsewhere: `σ` has no repetition
      have hik : i ≠ k := fun h =>
        e ⟨h ▸ rfl, by rw [scatterUpTo_length]; exact hlt _ (getD_mem 0 hil)⟩
      exact ih (Nat.le_of_lt hk) (Nat.lt_of_le_of_ne (Nat.le_of_lt_succ hi) hik)

theorem invertedSort_length (σ : List Nat) : (invertedSort σ).length = σ.length :=
  scatterUpTo_length σ σ.length

theorem invertedSort_left (σ : List Nat) (hσ : σ.Perm (List.range σ.length)) (i : Nat) (hi : i < σ.length) :
    (invertedSort σ).getD (σ.getD i 0) 0 = i :=
  scatterUpTo_spec σ (perm_range_nodup hσ) (perm_range_lt hσ) σ.length (Nat.le_refl _) i hi

theorem takeL_invertedSort_self {σ : List Nat} {n : Nat} (hσ : σ.Perm (List.range n)) :
    takeL (invertedSort σ) 0 σ = List.range n := by
  have hl := perm_range_length hσ
  subst hl
  exact takeL_eq_range rfl (invertedSort_left σ hσ)

theorem invertedSort_perm {σ : List Nat} {n : Nat} (hσ : σ.Perm (List.range n)) :
    (invertedSort σ).Perm (List.range n) := by
  have h := takeL_perm (invertedSort σ) 0 hσ ((invertedSort_length σ).trans (perm_range_length hσ))
  rw [takeL_invertedSort_self hσ] at h
  exact h.symm

theorem invertedSort_right (σ : List Nat) (hσ : σ.Perm (List.range σ.length)) (j : Nat) (hj : j < σ.length) :
    (invertedSort σ).getD j 0 < σ.length ∧ σ.getD ((invertedSort σ).getD j 0) 0 = j := by
  obtain ⟨i, hi, rfl⟩ := List.mem_iff_getElem.1 (hσ.mem_iff.2 (List.mem_range.2 hj))
  rw [← getD_of_lt 0 hi, invertedSort_left σ hσ i hi]
  exact ⟨hi, rfl⟩

theorem takeL_self_invertedSort {σ : List Nat} {n : Nat} (hσ : σ.Perm (List.range n)) :
    takeL σ 0 (invertedSort σ) = List.range n := by
  have hl := perm_range_length hσ
  subst hl
  exact takeL_eq_range (invertedSort_length σ) fun j hj => (invertedSort_right σ hσ j hj).2

theorem invertedSort_unique {σ τ : List Nat} {n : Nat} (hσ : σ.Perm (List.range n)) (hτ : τ.length = n)
    (h : takeL τ 0 σ = List.range n) : invertedSort σ = τ := by
  have hι := invertedSort_perm hσ
  rw [← takeL_range_right τ 0 hτ, ← takeL_self_invertedSort hσ,
    ← takeL_takeL _ _ hσ hι, h, takeL_range_left (perm_range_lt hι)]

theorem invertedSort_range (n : Nat) : invertedSort (List.range n) = List.range n :=
  invertedSort_unique (List.Perm.refl _) List.length_range (takeL_range_left fun _ => List.mem_range.1)

/-- `σ = π ∘ σ'` gives `σ'⁻¹ = σ⁻¹ ∘ π` -/
theorem invertedSort_comp {σ σ' π : List Nat} {n : Nat} (hσ : σ.Perm (List.range n))
    (hσ' : σ'.Perm (List.range n)) (hπ : π.Perm (List.range n)) (h : takeL π 0 σ' = σ) :
    invertedSort σ' = takeL (invertedSort σ) 0 π :=
  invertedSort_unique hσ' (by simp [perm_range_length hπ]) <| by
    rw [takeL_takeL _ _ hπ hσ', h, takeL_invertedSort_self hσ]

theorem take_take_inverted {α} (a : List α) (d : α) (σ : List Nat) (hσ : σ.Perm (List.range σ.length))
    (ha : a.length = σ.length) : takeL (takeL a d σ) d (invertedSort σ) = a := by
  rw [takeL_takeL _ _ hσ (invertedSort_perm hσ), takeL_self_invertedSort hσ,
    takeL_range_right a d ha]


/-! ### `argsort` -/

def lexLt (p q : Rat × Nat) : Prop := p.1 < q.1 ∨ (p.1 = q.1 ∧ p.2 < q.2)

theorem lexLt.le {p q : Rat × Nat} (h : lexLt p q) : p.1 ≤ q.1 :=
  h.elim Rat.le_of_lt fun h => le_of_eq_of_le h.1 Rat.le_refl

theorem lexLt.asymm {p q : Rat × Nat} (h : lexLt p q) (h' : lexLt q p) : False := by
  rcases h with h | ⟨e, h⟩
  · exact Rat.not_lt.2 h'.le h
  · rcases h' with h' | ⟨-, h'⟩
    · exact Rat.lt_irrefl (e ▸ h')
    · exact Nat.lt_asymm h h'

theorem lexLt.of_le {p q : Rat × Nat} (h : p.1 ≤ q.1) (hi : p.2 < q.2) : lexLt p q :=
  (Rat.le_iff_lt_or_eq.1 h).imp_right (⟨·, hi⟩)

theorem insertP_perm (p : Rat × Nat) (l : List (Rat × Nat)) : (insertP p l).Perm (p :: l) := by
  induction l with
  | nil => simp [insertP]
  | cons q t ih =>
    simp only [insertP]
    split
    · exact List.Perm.refl _
    · exact (List.Perm.cons q ih).trans (List.Perm.swap p q t)

theorem insertP_sorted (p : Rat × Nat) (l : List (Rat × Nat)) (hl : l.Pairwise lexLt)
    (hp : ∀ q ∈ l, q.2 < p.2) : (insertP p l).Pairwise lexLt := by
  induction l with
  | nil => simp [insertP]
  | cons q t ih =>
    simp only [insertP]
    have hq := List.pairwise_cons.1 hl
    split
    · rename_i hlt
      refine List.pairwise_cons.2 ⟨?_, hl⟩
      intro r hr
      rcases List.mem_cons.1 hr with rfl | hr
      · exact Or.inl hlt
      · exact Or.inl (Std.lt_of_lt_of_le hlt (hq.1 r hr).le)
    · rename_i hnlt
      refine List.pairwise_cons.2 ⟨?_, ih hq.2 (fun r hr => hp r (List.mem_cons_of_mem _ hr))⟩
      intro r hr
      rcases List.mem_cons.1 ((insertP_perm p t).mem_iff.1 hr) with rfl | hr
      · -- on equal keys the pair inserted later has the larger index
        exact .of_le (Rat.not_lt.1 hnlt) (hp q (List.mem_cons_self ..))
      · exact hq.1 r hr

/-- the sort loop from position `k` on: every pair inserted so far has a smaller index than the next -/
theorem foldl_insertP (x : List Rat) (k : Nat) (acc : List (Rat × Nat)) (hacc : acc.Pairwise lexLt)
    (hk : ∀ q ∈ acc, q.2 < k) :
    ((x.zipIdx k).foldl (fun acc p => insertP p acc) acc).Pairwise lexLt ∧
    ((x.zipIdx k).foldl (fun acc p => insertP p acc) acc).Perm (acc ++ x.zipIdx k) := by
  induction x generalizing k acc with
  | nil => simpa using hacc
  | cons a t ih =>
    have := ih (k + 1) (insertP (a, k) acc) (insertP_sorted _ acc hacc hk) fun q hq => by
      rcases List.mem_cons.1 ((insertP_perm _ acc).mem_iff.1 hq) with rfl | hq
      · exact Nat.lt_succ_self k
      · exact Nat.lt_succ_of_lt (hk q hq)
    exact ⟨this.1, this.2.trans (((insertP_perm _ acc).append_right _).trans (by simpa using List.perm_middle.symm))⟩

def sortedPairs (x : List Rat) : List (Rat × Nat) := (x.zipIdx).foldl (fun acc p => insertP p acc) []

theorem argsort_eq (x : List Rat) : argsort x = (sortedPairs x).map (·.2) := rfl

/-- sorted by key, ties by position: this is what "stable" means -/
theorem sortedPairs_spec (x : List Rat) :
    (sortedPairs x).Pairwise lexLt ∧ (sortedPairs x).Perm x.zipIdx :=
  foldl_insertP x 0 [] .nil nofun

theorem sortedPairs_mem (x : List Rat) {p : Rat × Nat} (hp : p ∈ sortedPairs x) : x.getD p.2 0 = p.1 := by
  rw [List.getD_eq_getElem?_getD, List.mem_zipIdx_iff_getElem?.1 ((sortedPairs_spec x).2.mem_iff.1 hp)]
  rfl

theorem argsort_perm (x : List Rat) : (argsort x).Perm (List.range x.length) := by
  rw [argsort_eq]
  have := (sortedPairs_spec x).2.map Prod.snd
  rwa [List.zipIdx_map_snd, ← List.range_eq_range'] at this

/-- the positions come out ordered by (value, position) … -/
theorem argsort_stable (x : List Rat) :
    (argsort x).Pairwise fun i j => lexLt (x.getD i 0, i) (x.getD j 0, j) := by
  rw [argsort_eq, List.pairwise_map]
  refine (sortedPairs_spec x).1.imp_of_mem fun {p q} hp hq h => ?_
  rwa [sortedPairs_mem x hp, sortedPairs_mem x hq]

/-- … and no other permutation does that: the stable sort is unique, which is why an insertion sort may stand for
NumPy's merge sort -/
theorem argsort_unique {x : List Rat} {σ : List Nat} (hp : σ.Perm (List.range x.length))
    (hs : σ.Pairwise fun i j => lexLt (x.getD i 0, i) (x.getD j 0, j)) : σ = argsort x :=
  (hp.trans (argsort_perm x).symm).eq_of_pairwise (fun _ _ _ _ h h' => (h.asymm h').elim) hs (argsort_stable x)

/-- without repetition in x there are no ties to break: whatever sorts x is `argsort x` -/
theorem argsort_unique_of_nodup {x : List Rat} (hx : x.Nodup) {σ : List Nat} (hp : σ.Perm (List.range x.length))
    (hs : (takeL x 0 σ).Pairwise (· ≤ ·)) : σ = argsort x :=
  argsort_unique hp <| (List.pairwise_map.1 <|
    hs.imp₂ (fun _ _ => Rat.lt_of_le_of_ne) ((takeL_perm x 0 hp rfl).nodup_iff.2 hx)).imp .inl

theorem argsort_sorted (x : List Rat) : (takeL x 0 (argsort x)).Pairwise (· ≤ ·) :=
  List.pairwise_map.2 ((argsort_stable x).imp lexLt.le)

theorem argsort_of_sorted (x : List Rat) (hx : x.Pairwise (· ≤ ·)) : argsort x = List.range x.length := by
  refine (argsort_unique (.refl _) (List.pairwise_lt_range.imp_of_mem fun _ hj hij => ?_)).symm
  exact .of_le (pairwise_getD hx 0 hij (List.mem_range.1 hj)) hij


/-! ### `determineSorts` -/

theorem strictlyIncreasing_iff (σ : List Nat) : strictlyIncreasing σ = true ↔ σ.Pairwise (· < ·) := by
  induction σ with
  | nil => simp [strictlyIncreasing]
  | cons a t ih =>
    cases t with
    | nil => simp [strictlyIncreasing]
    | cons b t =>
      simp only [strictlyIncreasing, Bool.and_eq_true, decide_eq_true_eq, ih]
      constructor
      · rintro ⟨hab, hb⟩
        refine List.pairwise_cons.2 ⟨?_, hb⟩
        intro c hc
        rcases List.mem_cons.1 hc with rfl | hc
        · exact hab
        · exact Nat.lt_trans hab ((List.pairwise_cons.1 hb).1 c hc)
      · intro h
        have := List.pairwise_cons.1 h
        exact ⟨this.1 b (List.mem_cons_self ..), this.2⟩

theorem eq_range_of_pairwise_lt {σ : List Nat} {n : Nat} (hσ : σ.Perm (List.range n))
    (h : σ.Pairwise (· < ·)) : σ = List.range n :=
  List.Perm.eq_of_pairwise (fun a b _ _ h1 h2 => by omega) h List.pairwise_lt_range hσ

theorem determineSorts_eq (x : List Rat) : determineSorts x =
    if strictlyIncreasing (argsort x) then none else some (argsort x, invertedSort (argsort x)) := rfl

theorem determineSorts_eq_none (x : List Rat) :
    determineSorts x = none ↔ strictlyIncreasing (argsort x) = true := by
  rw [determineSorts_eq]
  by_cases h : strictlyIncreasing (argsort x) = true
  · rw [if_pos h]; exact iff_of_true rfl h
  · rw [if_neg h]; exact iff_of_false nofun h

theorem determineSorts_none_iff (x : List Rat) : determineSorts x = none ↔ x.Pairwise (· ≤ ·) := by
  rw [determineSorts_eq_none, strictlyIncreasing_iff]
  constructor
  · intro h
    have := argsort_sorted x
    rwa [eq_range_of_pairwise_lt (argsort_perm x) h, takeL_range_right x 0 rfl] at this
  · intro h
    rw [argsort_of_sorted x h]
    exact List.pairwise_lt_range

theorem determineSorts_cases (x : List Rat) :
    (determineSorts x = none ∧ argsort x = List.range x.length) ∨
    determineSorts x = some (argsort x, invertedSort (argsort x)) := by
  by_cases h : strictlyIncreasing (argsort x) = true
  · left
    exact ⟨(determineSorts_eq_none x).2 h,
      eq_range_of_pairwise_lt (argsort_perm x) ((strictlyIncreasing_iff _).1 h)⟩
  · right
    rw [determineSorts_eq, if_neg h]

/-- `o` is what `_determine_sorts` hands out for the permutation `τ` of `range n`: `None` stands for
the identity -/
def Stands (o : Option (List Nat)) (τ : List Nat) (n : Nat) : Prop :=
  τ.Perm (List.range n) ∧ (o = some τ ∨ o = none ∧ τ = List.range n)

theorem Stands.sortArray_eq {α} {o : Option (List Nat)} {τ : List Nat} {n : Nat} (h : Stands o τ n)
    (a : List α) (d : α) (ha : a.length = n) : sortArray a d o = takeL a d τ := by
  obtain ⟨-, rfl | ⟨rfl, rfl⟩⟩ := h
  · rfl
  · exact (takeL_range_right a d ha).symm

theorem Stands.sort2d_eq {ox oz : Option (List Nat)} {τx τz : List Nat} {nx nz : Nat}
    (hx : Stands ox τx nx) (hz : Stands oz τz nz)
    (m : List (List Rat)) (hm : m.length = nx ∧ ∀ row ∈ m, row.length = nz) :
    sort2d m ox oz = sort2d m (some τx) (some τz) := by
  unfold sort2d
  rw [hx.sortArray_eq m [] hm.1]
  exact List.map_congr_left fun row hr =>
    hz.sortArray_eq row 0 (hm.2 row (mem_takeL (hm.1 ▸ perm_range_lt hx.1) hr))

theorem determineSorts_stands (x : List Rat) :
    Stands ((determineSorts x).map (·.1)) (argsort x) x.length ∧
    Stands ((determineSorts x).map (·.2)) (invertedSort (argsort x)) x.length := by
  have hp := argsort_perm x
  have hi := invertedSort_perm hp
  rcases determineSorts_cases x with ⟨h, e⟩ | h
  · exact ⟨⟨hp, .inr ⟨by rw [h]; rfl, e⟩⟩, ⟨hi, .inr ⟨by rw [h]; rfl, by rw [e, invertedSort_range]⟩⟩⟩
  · exact ⟨⟨hp, .inl (by rw [h]; rfl)⟩, ⟨hi, .inl (by rw [h]; rfl)⟩⟩


/-! ### sorting a permuted axis -/

theorem argsort_takeL_perm (x : List Rat) {π : List Nat} (hπ : π.Perm (List.range x.length)) :
    (argsort (takeL x 0 π)).Perm (List.range x.length) := by
  simpa [perm_range_length hπ] using argsort_perm (takeL x 0 π)

/-- sorting the permuted array composes with the permutation to the original sort order, because a list without repetition
has one sorted arrangement -/
theorem argsort_takeL (x : List Rat) (hx : x.Nodup) (π : List Nat) (hπ : π.Perm (List.range x.length)) :
    takeL π 0 (argsort (takeL x 0 π)) = argsort x := by
  have hl := perm_range_length hπ
  have hσ' := argsort_takeL_perm x hπ
  apply argsort_unique_of_nodup hx ((takeL_perm π 0 hσ' hl).trans hπ)
  rw [← takeL_takeL x 0 hπ hσ']
  exact argsort_sorted _

theorem invertedSort_argsort_takeL (x : List Rat) (hx : x.Nodup) {π : List Nat} (hπ : π.Perm (List.range x.length)) :
    invertedSort (argsort (takeL x 0 π)) = takeL (invertedSort (argsort x)) 0 π :=
  invertedSort_comp (argsort_perm x) (argsort_takeL_perm x hπ) hπ (argsort_takeL x hx π hπ)

/-- on the way in the sort undoes the permutation … -/
theorem takeL_takeL_argsort {α} (x : List Rat) (hx : x.Nodup) {π : List Nat} (hπ : π.Perm (List.range x.length))
    (a : List α) (d : α) :
    takeL (takeL a d π) d (argsort (takeL x 0 π)) = takeL a d (argsort x) := by
  rw [takeL_takeL _ _ hπ (argsort_takeL_perm x hπ), argsort_takeL x hx π hπ]

/-- … and on the way out un-sorting restores it -/
theorem takeL_invertedSort_argsort {α} (x : List Rat) (hx : x.Nodup) {π : List Nat}
    (hπ : π.Perm (List.range x.length)) (r : List α) (d : α) :
    takeL r d (invertedSort (argsort (takeL x 0 π))) = takeL (takeL r d (invertedSort (argsort x))) d π := by
  rw [invertedSort_argsort_takeL x hx hπ, takeL_takeL _ _ (invertedSort_perm (argsort_perm x)) hπ]

/-- `run1d` always behaves as if it sorted with `argsort x` (also when the sort is skipped) -/
theorem run1d_normal
    (core : List Rat → List Rat → Option (List Rat) → List Rat × List (List Rat))
    (hcore : ∀ xs ys ws, (core xs ys ws).1.length = xs.length ∧ ∀ a ∈ (core xs ys ws).2, a.length = xs.length)
    (x y : List Rat) (w : Option (List Rat))
    (hy : y.length = x.length) (hw : ∀ v, w = some v → v.length = x.length) :
    run1d core x y w =
      (takeL (core (takeL x 0 (argsort x)) (takeL y 0 (argsort x)) (w.map (takeL · 0 (argsort x)))).1 0
          (invertedSort (argsort x)),
       (core (takeL x 0 (argsort x)) (takeL y 0 (argsort x)) (w.map (takeL · 0 (argsort x)))).2.map
          (takeL · 0 (invertedSort (argsort x)))) := by
  unfold run1d
  rcases determineSorts_cases x with ⟨h, e⟩ | h
  · have ew : w.map (takeL · 0 (List.range x.length)) = w :=
      (Option.map_congr fun v hv => takeL_range_right v 0 (hw v hv)).trans Option.map_id'
    have er : (core x y w).2.map (takeL · 0 (List.range x.length)) = (core x y w).2 :=
      (List.map_congr_left fun a ha => takeL_range_right a 0 ((hcore x y w).2 a ha)).trans (List.map_id' _)
    rw [h, e, invertedSort_range, takeL_range_right x 0 rfl, takeL_range_right y 0 hy, ew]
    rw [takeL_range_right _ 0 (hcore x y w).1, er]
  · rw [h]


theorem sort2d_some (m : List (List Rat)) (τx τz : List Nat) :
    sort2d m (some τx) (some τz) = (takeL m [] τx).map (takeL · 0 τz) := rfl

theorem sort2d_dims (m : List (List Rat)) (τx τz : List Nat) :
    (sort2d m (some τx) (some τz)).length = τx.length ∧
    ∀ row ∈ sort2d m (some τx) (some τz), row.length = τz.length := by
  rw [sort2d_some]
  refine ⟨by simp, fun row hrow => ?_⟩
  obtain ⟨r, _, rfl⟩ := List.mem_map.1 hrow
  simp

theorem sort2d_comp (m : List (List Rat)) {π₁ π₂ τ₁ τ₂ : List Nat} {n₁ n₂ : Nat}
    (hπ₁ : π₁.Perm (List.range n₁)) (hτ₁ : τ₁.Perm (List.range n₁))
    (hπ₂ : π₂.Perm (List.range n₂)) (hτ₂ : τ₂.Perm (List.range n₂)) :
    sort2d (sort2d m (some π₁) (some π₂)) (some τ₁) (some τ₂) =
      sort2d m (some (takeL π₁ 0 τ₁)) (some (takeL π₂ 0 τ₂)) := by
  simp only [sort2d_some]
  rw [takeL_map (takeL m [] π₁) (takeL · 0 π₂) [] [] τ₁ (by simpa [perm_range_length hπ₁] using perm_range_lt hτ₁),
    takeL_takeL _ _ hπ₁ hτ₁, List.map_map]
  exact List.map_congr_left fun row _ => takeL_takeL _ _ hπ₂ hτ₂

theorem sort2d_sort2d_argsort (x z : List Rat) (hx : x.Nodup) (hz : z.Nodup) {πx πz : List Nat}
    (hπx : πx.Perm (List.range x.length)) (hπz : πz.Perm (List.range z.length)) (m : List (List Rat)) :
    sort2d (sort2d m (some πx) (some πz)) (some (argsort (takeL x 0 πx))) (some (argsort (takeL z 0 πz))) =
      sort2d m (some (argsort x)) (some (argsort z)) := by
  rw [sort2d_comp _ hπx (argsort_takeL_perm x hπx) hπz (argsort_takeL_perm z hπz),
    argsort_takeL x hx πx hπx, argsort_takeL z hz πz hπz]

theorem sort2d_invertedSort_argsort (x z : List Rat) (hx : x.Nodup) (hz : z.Nodup) {πx πz : List Nat}
    (hπx : πx.Perm (List.range x.length)) (hπz : πz.Perm (List.range z.length)) (r : List (List Rat)) :
    sort2d r (some (invertedSort (argsort (takeL x 0 πx)))) (some (invertedSort (argsort (takeL z 0 πz)))) =
      sort2d (sort2d r (some (invertedSort (argsort x))) (some (invertedSort (argsort z)))) (some πx) (some πz) := by
  rw [invertedSort_argsort_takeL x hx hπx, invertedSort_argsort_takeL z hz hπz,
    sort2d_comp _ (invertedSort_perm (argsort_perm x)) hπx (invertedSort_perm (argsort_perm z)) hπz]

/-- `core` on what `run2d` hands it when both axes are sorted with `argsort` -/
def core2dArgs (core : List Rat → List Rat → List (List Rat) → Option (List (List Rat)) →
      List (List Rat) × List (List (List Rat)))
    (x z : List Rat) (y : List (List Rat)) (w : Option (List (List Rat))) :=
  core (takeL x 0 (argsort x)) (takeL z 0 (argsort z))
    (sort2d y (some (argsort x)) (some (argsort z)))
    (w.map (sort2d · (some (argsort x)) (some (argsort z))))

theorem run2d_normal
    (core : List Rat → List Rat → List (List Rat) → Option (List (List Rat)) →
      List (List Rat) × List (List (List Rat)))
    (hcore : ∀ xs zs ys ws, let r := core xs zs ys ws
        (r.1.length = xs.length ∧ ∀ row ∈ r.1, row.length = zs.length) ∧
        ∀ a ∈ r.2, a.length = xs.length ∧ ∀ row ∈ a, row.length = zs.length)
    (x z : List Rat) (y : List (List Rat)) (w : Option (List (List Rat)))
    (hy : y.length = x.length ∧ ∀ row ∈ y, row.length = z.length)
    (hw : ∀ v, w = some v → v.length = x.length ∧ ∀ row ∈ v, row.length = z.length) :
    run2d core x z y w =
      (sort2d (core2dArgs core x z y w).1 (some (invertedSort (argsort x))) (some (invertedSort (argsort z))),
       (core2dArgs core x z y w).2.map
         (sort2d · (some (invertedSort (argsort x))) (some (invertedSort (argsort z))))) := by
  obtain ⟨hx1, hx2⟩ := determineSorts_stands x
  obtain ⟨hz1, hz2⟩ := determineSorts_stands z
  unfold run2d core2dArgs
  simp only []
  rw [hx1.sortArray_eq x 0 rfl, hz1.sortArray_eq z 0 rfl, hx1.sort2d_eq hz1 y hy,
    Option.map_congr fun v hv => hx1.sort2d_eq hz1 v (hw v hv)]
  have hc := hcore (takeL x 0 (argsort x)) (takeL z 0 (argsort z))
    (sort2d y (some (argsort x)) (some (argsort z)))
    (w.map (sort2d · (some (argsort x)) (some (argsort z))))
  simp only [takeL_length, perm_range_length hx1.1, perm_range_length hz1.1] at hc
  rw [hx2.sort2d_eq hz2 _ hc.1]
  exact congrArg _ (List.map_congr_left fun a ha => hx2.sort2d_eq hz2 a (hc.2 a ha))

end PbVerif.Lemmas
