import PbVerif.Lemmas.BandRep
import Mathlib.Algebra.BigOperators.Group.Finset.Sigma
import Mathlib.Algebra.BigOperators.Ring.Finset
/-! Lemmas for C06: every banded assembly stores the documented matrix, in each layout a solver can be handed; jbcd's signal
system is not the documented one; the extra right-hand side of iasls is `D₁ᵀ(D₁ y)`. -/
namespace PbVerif.Lemmas
open PbVerif.Banded PbVerif.Whittaker

theorem lowerBand_asmStd (n d : Nat) (lam : Rat) (w : List Rat) (hw : w.length = n) :
    LowerBand (asmStd n d lam w true false) (d + 1) n (docStd n d lam w) :=
  (((lowerBand_bandsQ n d).scale lam).addRow (by omega) hw).congr fun i j _ _ => by unfold docStd; ring

theorem fullBand_asmStd (n d : Nat) (lam : Rat) (w : List Rat) (hw : w.length = n) :
    FullBand (asmStd n d lam w false false) d n (docStd n d lam w) :=
  (((fullBand_bandsQ n d).scale lam).addRow hw).congr fun i j _ _ => by unfold docStd; ring

/-- under pentapy the penalty is stored upside down; `D'D` is symmetric, so that is its row-wise storage -/
theorem rowwiseBand_asmStd (n d : Nat) (lam : Rat) (w : List Rat) (hw : w.length = n) :
    RowwiseBand (asmStd n d lam w false true) d n (docStd n d lam w) :=
  (((fullBand_bandsQ n d).scale lam).reverse.addRow hw).congr fun i j _ _ => by
    rw [dtdQ_symm n d j i]; unfold docStd; ring

theorem getD_map_sq (w : List Rat) (c : Nat) : (w.map fun v => v * v).getD c 0 = w.getD c 0 * w.getD c 0 :=
  getD_map (fun v => v * v) c (mul_zero 0)

theorem lowerBand_asmIasls (n d : Nat) (lam lam1 : Rat) (w : List Rat) (hw : w.length = n) (hd : 1 ≤ d) :
    LowerBand (asmIasls n d lam lam1 w true false) (d + 1) n (docIasls n d lam lam1 w) :=
  ((((lowerBand_bandsQ n d).scale lam).addB (((lowerBand_bandsQ n 1).padLower (d - 1) (by omega)).scale lam1)).addRow
    (by omega) (by rw [List.length_map, hw])).congr fun i j _ _ => by rw [getD_map_sq]; unfold docIasls; ring

theorem fullBand_asmIasls (n d : Nat) (lam lam1 : Rat) (w : List Rat) (hw : w.length = n) (hd : 1 ≤ d) :
    FullBand (asmIasls n d lam lam1 w false false) d n (docIasls n d lam lam1 w) :=
  ((((fullBand_bandsQ n d).scale lam).addB (((fullBand_bandsQ n 1).pad (d - 1) (by omega)).scale lam1)).addRow
    (by rw [List.length_map, hw])).congr fun i j _ _ => by rw [getD_map_sq]; unfold docIasls; ring

theorem rowwiseBand_asmIasls (n d : Nat) (lam lam1 : Rat) (w : List Rat) (hw : w.length = n) (hd : 1 ≤ d) :
    RowwiseBand (asmIasls n d lam lam1 w false true) d n (docIasls n d lam lam1 w) :=
  ((((fullBand_bandsQ n d).scale lam).reverse.addB (((fullBand_bandsQ n 1).pad (d - 1) (by omega)).scale lam1).reverse).addRow
    (by rw [List.length_map, hw])).congr fun i j _ _ => by
      rw [dtdQ_symm n d j i, dtdQ_symm n 1 j i, getD_map_sq]; unfold docIasls; ring

theorem iasls_asm_den_full (n d : Nat) (lam lam1 : Rat) (w : List Rat) (hw : w.length = n) (hd : 1 ≤ d) (i j : Nat) (hi : i < n) (hj : j < n) :
    denFull (asmIasls n d lam lam1 w false false) d i j = docIasls n d lam lam1 w i j :=
  (fullBand_asmIasls n d lam lam1 w hw hd).den i j hi hj

/-! ### aspls and drpls

The penalty upside down is the row-wise storage of `D'D`, in which `* alpha` (`* weight_array`) scales rows of the matrix;
pentapy takes that array as it is, for SciPy `_shift_rows` brings it to LAPACK's layout. -/

theorem shiftRows_reverse_colscale (n d : Nat) (w : List Rat) (hw : w.length = n) (i j : Nat) (hi : i < n) (hj : j < n) :
    denFull (shiftRows (colScale (bandsQ n d false).reverse w) d d) d i j = w.getD i 0 * dtdQ n d i j := by
  rw [((fullBand_bandsQ n d).shiftRevColScale hw).den i j hi hj, dtdQ_symm]

theorem rowwiseBand_asmAspls (n d : Nat) (lam : Rat) (w alpha : List Rat) (hw : w.length = n) (ha : alpha.length = n) :
    RowwiseBand (asmAspls n d lam w alpha true) d n (docAspls n d lam w alpha) :=
  ((((fullBand_bandsQ n d).scale lam).reverse.colScale ha).addRow hw).congr fun i j _ _ => by
    rw [dtdQ_symm n d j i]; unfold docAspls; ring

theorem fullBand_asmAspls (n d : Nat) (lam : Rat) (w alpha : List Rat) (hw : w.length = n) (ha : alpha.length = n) :
    FullBand (asmAspls n d lam w alpha false) d n (docAspls n d lam w alpha) :=
  .ofRowwise (rowwiseBand_asmAspls n d lam w alpha hw ha)

theorem aspls_asm_den (n d : Nat) (lam : Rat) (w alpha : List Rat) (hw : w.length = n) (ha : alpha.length = n)
    (i j : Nat) (hi : i < n) (hj : j < n) :
    denFull (asmAspls n d lam w alpha false) d i j = docAspls n d lam w alpha i j :=
  (fullBand_asmAspls n d lam w alpha hw ha).den i j hi hj

/-- drpls' `penalty_with_weights = diff_n_diagonals * weight_array` holds `W (I − ηλ D'D)` row-wise -/
theorem rowwiseBand_drplsWeighted (n d : Nat) (lam eta : Rat) (w : List Rat) (hw : w.length = n) :
    RowwiseBand (colScale (addRowC (scale (-eta) (scale lam (bandsQ n d false))).reverse d 1) w) d n
      fun i j => w.getD i 0 * (-eta * (lam * dtdQ n d i j) + delta i j 1) :=
  (((((fullBand_bandsQ n d).scale lam).scale (-eta)).reverse.addRowC 1).colScale hw).congr fun i j _ _ => by
    rw [dtdQ_symm n d j i]

theorem fullBand_asmDrpls (n d : Nat) (lam eta : Rat) (w : List Rat) (hw : w.length = n) (hd : 1 ≤ d) :
    FullBand (asmDrpls n d lam eta w false) d n (docDrpls n d lam eta w) :=
  ((((fullBand_bandsQ n d).scale lam).addB ((fullBand_bandsQ n 1).pad (d - 1) (by omega))).addB
    (.ofRowwise (rowwiseBand_drplsWeighted n d lam eta w hw))).congr fun i j _ _ => by
      unfold docDrpls delta; split <;> ring

theorem rowwiseBand_asmDrpls (n d : Nat) (lam eta : Rat) (w : List Rat) (hw : w.length = n) (hd : 1 ≤ d) :
    RowwiseBand (asmDrpls n d lam eta w true) d n (docDrpls n d lam eta w) :=
  ((((fullBand_bandsQ n d).scale lam).addB ((fullBand_bandsQ n 1).pad (d - 1) (by omega))).reverse.addB
    (rowwiseBand_drplsWeighted n d lam eta w hw)).congr fun i j _ _ => by
      rw [dtdQ_symm n d j i, dtdQ_symm n 1 j i]; unfold docDrpls delta; split <;> ring

theorem drpls_asm_den (n d : Nat) (lam eta : Rat) (w : List Rat) (hw : w.length = n) (hd : 1 ≤ d)
    (i j : Nat) (hi : i < n) (hj : j < n) :
    denFull (asmDrpls n d lam eta w false) d i j = docDrpls n d lam eta w i j :=
  (fullBand_asmDrpls n d lam eta w hw hd).den i j hi hj

/-! ### jbcd -/

theorem lowerBand_asmJbcd (n d : Nat) (c diag : Rat) : LowerBand (asmJbcd n d c diag true false) (d + 1) n (docJbcd n d c diag) :=
  ((((lowerBand_bandsQ n d).scale 1).scale c).addRowC (by omega) diag).congr fun i j _ _ => by unfold docJbcd; ring

theorem fullBand_asmJbcd (n d : Nat) (c diag : Rat) : FullBand (asmJbcd n d c diag false false) d n (docJbcd n d c diag) :=
  ((((fullBand_bandsQ n d).scale 1).scale c).addRowC diag).congr fun i j _ _ => by unfold docJbcd; ring

theorem coef_zero_sq (d : Nat) : coef d 0 * coef d 0 = 1 := by
  induction d with
  | zero => rfl
  | succ d ih => simp only [coef]; rw [neg_mul_neg, ih]

theorem dtdQ_corner (n d : Nat) (h : d < n) : dtdQ n d 0 0 = 1 := by
  unfold dtdQ
  rw [← dtdOff_eq_DtD n d 0 0]
  -- in the offset form only the term `m = 0` has `m ≤ i = 0`
  show ((rsum (d + 1) (fun m => if m ≤ 0 ∧ 0 - m + d < n ∧ m + 0 ≤ d then coef d m * coef d (m + 0) else 0) : Int) : Rat) = 1
  rw [rsum_succ', rsum_eq_zero (fun m _ => if_neg (by omega)), if_pos ⟨by omega, by omega, by omega⟩, coef_zero_sq]
  rfl

theorem jbcd_signal_ne_documented (n d : Nat) (g : Rat) (hg : g ≠ 0) (h : d < n) :
    docJbcd n d g 1 0 0 ≠ docJbcd n d (2 * g) 1 0 0 := by
  unfold docJbcd delta
  rw [dtdQ_corner n d h]
  intro hh
  rw [mul_one, mul_one, two_mul, add_right_inj] at hh
  exact hg (left_eq_add.mp hh)

/-! ### iasls right-hand side

`d1y y` is `D₁ᵀ (D₁ y)` written out, and `D₁'D₁ y` becomes that once the two sums in the definition of `D'D` are exchanged. -/

def qsum (N : Nat) (f : Nat → Rat) : Rat := sumL ((List.range N).map f)

theorem qsum_zero (f : Nat → Rat) : qsum 0 f = 0 := rfl

open Finset

theorem dtdQ_mulVec (n d i : Nat) (f : Nat → Rat) :
    ∑ j ∈ range n, dtdQ n d i j * f j
      = ∑ k ∈ range (n - d), ((Dent d k i : Int) : Rat) * ∑ j ∈ range n, ((Dent d k j : Int) : Rat) * f j := by
  have e (j : Nat) : dtdQ n d i j = ∑ k ∈ range (n - d), ((Dent d k i : Int) : Rat) * ((Dent d k j : Int) : Rat) :=
    (Int.cast_sum (range (n - d)) fun k => Dent d k i * Dent d k j).trans (sum_congr rfl fun k _ => Int.cast_mul _ _)
  simp only [e, sum_mul, mul_sum, mul_assoc]
  exact sum_comm

theorem Dent_one (k j : Nat) : ((Dent 1 k j : Int) : Rat) = (if j = k + 1 then 1 else 0) - (if j = k then 1 else 0) := by
  unfold Dent
  by_cases h0 : j = k
  · subst h0
    rw [if_pos ⟨Nat.le_refl j, by omega⟩, if_neg (by omega), if_pos rfl, Nat.sub_self]; norm_num [coef]
  · by_cases h1 : j = k + 1
    · subst h1
      rw [if_pos ⟨Nat.le_succ k, by omega⟩, if_pos rfl, if_neg h0, Nat.add_sub_cancel_left]; norm_num [coef]
    · rw [if_neg (by omega), if_neg h1, if_neg h0]; norm_num

/-- `D₁ f` is the forward difference … -/
theorem Dent_one_mulVec (f : Nat → Rat) {n k : Nat} (hk : k + 1 < n) :
    ∑ j ∈ range n, ((Dent 1 k j : Int) : Rat) * f j = f (k + 1) - f k := by
  simp only [Dent_one, sub_mul, ite_mul, one_mul, zero_mul, sum_sub_distrib, sum_ite_eq', mem_range]
  rw [if_pos hk, if_pos (Nat.lt_of_succ_lt hk)]

/-- … and `D₁ᵀ g`, for `g` on `m` points, the backward difference of `g` continued by 0 at both ends -/
theorem Dent_one_vecMul (g : Nat → Rat) {m i : Nat} (hi : i ≤ m) :
    ∑ k ∈ range m, ((Dent 1 k i : Int) : Rat) * g k = (if i = 0 then 0 else g (i - 1)) - (if i < m then g i else 0) := by
  simp only [Dent_one, sub_mul, ite_mul, one_mul, zero_mul, sum_sub_distrib, sum_ite_eq, mem_range]
  congr 1
  cases i with
  | zero => exact sum_eq_zero fun k _ => if_neg (Nat.succ_ne_zero k).symm
  | succ i =>
    simp only [add_left_inj, sum_ite_eq, mem_range]
    rw [if_pos (Nat.lt_of_succ_le hi), if_neg (Nat.succ_ne_zero i), Nat.add_sub_cancel]

theorem iasls_rhs (y : List Rat) (hn : 2 ≤ y.length) (i : Nat) (hi : i < y.length) :
    (d1y y).getD i 0 = sumL ((List.range y.length).map fun (j : Nat) => dtdQ y.length 1 i j * y.getD j 0) := by
  rw [sumL_range_eq_finset, dtdQ_mulVec,
    sum_congr rfl fun k hk => congrArg _ (Dent_one_mulVec _ (Nat.add_lt_of_lt_sub (mem_range.1 hk))),
    Dent_one_vecMul _ (Nat.le_sub_one_of_lt hi)]
  -- the code's three cases: first point, last point, inside
  unfold d1y
  rw [getD_range_map_if, if_pos hi, if_neg (Nat.not_lt.2 hn)]
  by_cases h0 : i = 0
  · subst h0; rw [if_pos rfl, if_pos rfl, if_pos (by omega)]; ring
  · rw [if_neg h0, if_neg h0, Nat.sub_add_cancel (Nat.pos_of_ne_zero h0)]
    by_cases h1 : i = y.length - 1
    · rw [if_pos h1, if_neg (by omega), ← h1, show y.length - 2 = i - 1 by omega]; ring
    · rw [if_neg h1, if_pos (by omega)]; ring

end PbVerif.Lemmas
