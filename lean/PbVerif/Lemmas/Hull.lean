import PbVerif.Model.Morph
import PbVerif.Lemmas.ListAux
import Mathlib.Tactic.Ring
import Mathlib.Tactic.Linarith
import Mathlib.Tactic.LinearCombination
/-! C14, rubberband: what the decidable lower-hull certificate `isLowerHull` implies for the baseline `hullInterp`
(= `np.interp(x, x[mask], y[mask])`).  No division: `cross A B P` is the height of `P` above the line `AB` times
`xb - xa > 0`, so it vanishes on the line, and every inequality is read off an identity `goal * d = u * p + w * q` with
`d > 0` and nonnegative terms.
Certificate (`Chain`) and interpolant (`Interp`) are stated by position `t ↦ v t` in the masked indices: every grid point
lies in a segment, the line of every segment supports the polygon (hence convex), the chord of its own segment bounds every
convex minorant.  The list model meets them because a list is the table of its `getD` and `np.interp` is local. -/
namespace PbVerif.Lemmas.Hull
open PbVerif.Morph

/-! ### geometry on sequences -/

theorem cross_cyc (ax ay bx by_ cx cy : Rat) : cross ax ay bx by_ cx cy = cross cx cy ax ay bx by_ := by
  unfold cross; ring
theorem cross_self_left (ax ay bx by_ : Rat) : cross ax ay bx by_ ax ay = 0 := by unfold cross; ring
theorem cross_self_right (ax ay bx by_ : Rat) : cross ax ay bx by_ bx by_ = 0 := by unfold cross; ring
theorem cross_shift (ax ay bx by_ cx cy c : Rat) :
    cross ax (ay + c) bx (by_ + c) cx (cy + c) = cross ax ay bx by_ cx cy := by unfold cross; ring

/-- `0 ≤ cr X Y i j k`: the polygon `t ↦ (X t, Y t)` turns left, or goes straight, at `(i, j, k)` -/
def cr (X Y : Nat → Rat) (i j k : Nat) : Rat := cross (X i) (Y i) (X j) (Y j) (X k) (Y k)

theorem nonneg_of_mul_pos {a d b : Rat} (h : a * d = b) (hd : 0 < d) (hb : 0 ≤ b) : 0 ≤ a :=
  nonneg_of_mul_nonneg_left (h ▸ hb) hd

theorem nonneg_of_comb {a d p u q w : Rat} (e : a * d = u * p + w * q) (hd : 0 < d) (hu : 0 ≤ u) (hp : 0 ≤ p)
    (hw : 0 ≤ w) (hq : 0 ≤ q) : 0 ≤ a :=
  nonneg_of_mul_pos e hd (add_nonneg (mul_nonneg hu hp) (mul_nonneg hw hq))

theorem cross_split_right (ax ay bx by_ cx cy dx dy : Rat) :
    cross ax ay bx by_ dx dy * (cx - bx)
      = cross ax ay bx by_ cx cy * (dx - bx) + cross bx by_ cx cy dx dy * (bx - ax) := by
  unfold cross; ring

theorem cross_split_left (ax ay bx by_ cx cy dx dy : Rat) :
    cross ax ay cx cy dx dy * (cx - bx)
      = cross ax ay bx by_ cx cy * (dx - cx) + cross bx by_ cx cy dx dy * (cx - ax) := by
  unfold cross; ring

theorem convex_local_to_global (X Y : Nat → Rat) (m : Nat)
    (hX : ∀ i j, i < j → j < m → X i < X j)
    (hloc : ∀ t, t + 2 < m → 0 ≤ cr X Y t (t + 1) (t + 2)) :
    ∀ i j k, i < j → j < k → k < m → 0 ≤ cr X Y i j k := by
  have dX : ∀ i j, i < j → j < m → 0 < X j - X i := fun i j h h' => sub_pos.mpr (hX i j h h')
  -- the last two indices adjacent: the turn at `(i, j+1, j+2)` from those at `(i, j, j+1)` and `(j, j+1, j+2)`
  have s1 : ∀ i j, i + 1 ≤ j → j + 1 < m → 0 ≤ cr X Y i j (j + 1) := by
    intro i j hij
    induction j, hij using Nat.le_induction with
    | base => intro h; exact hloc i h
    | succ j hij ih =>
      intro h
      exact nonneg_of_comb (cross_split_left ..) (dX j (j + 1) (by omega) (by omega)) (ih (by omega))
        (dX _ _ (by omega) h).le (hloc j (by omega)) (dX _ _ (by omega) (by omega)).le
  -- then the last index moves right: the turn at `(i, j, k+1)` from those at `(i, j, k)` and `(j, k, k+1)`
  intro i j k hij hjk
  induction k, (show j + 1 ≤ k from hjk) using Nat.le_induction with
  | base => intro h; exact s1 i j hij h
  | succ k hjk ih =>
    intro h
    exact nonneg_of_comb (cross_split_right ..) (dX j k (by omega) (by omega)) (ih (by omega) (by omega))
      (dX _ _ (by omega) h).le (s1 j k (by omega) h) (dX _ _ hij (by omega)).le

/-! `hs` below: the point is on the line through `A = (xa, ya)` and `B = (xb, yb)` -/
section seg
variable {xa ya xb yb xi hi : Rat}

theorem cross_eq_height (hs : cross xa ya xb yb xi hi = 0) (q : Rat) :
    cross xa ya xb yb xi q = (q - hi) * (xb - xa) := by
  unfold cross at hs ⊢; linear_combination hs

theorem cross_seg_nonneg {lx ly mx my : Rat} (hab : xa < xb) (h1 : xa ≤ xi) (h2 : xi ≤ xb)
    (hs : cross xa ya xb yb xi hi = 0)
    (ca : 0 ≤ cross lx ly mx my xa ya) (cb : 0 ≤ cross lx ly mx my xb yb) : 0 ≤ cross lx ly mx my xi hi := by
  have e : cross lx ly mx my xi hi * (xb - xa)
      = cross lx ly mx my xa ya * (xb - xi) + cross lx ly mx my xb yb * (xi - xa) := by
    unfold cross at hs ⊢; linear_combination (mx - lx) * hs
  exact nonneg_of_comb e (sub_pos.mpr hab) ca (sub_nonneg.mpr h2) cb (sub_nonneg.mpr h1)

theorem convex3_of_support {xj hj xk hk : Rat} (hab : xa < xb) (hij : xi < xj) (hjk : xj < xk)
    (hs : cross xa ya xb yb xj hj = 0)
    (ci : 0 ≤ cross xa ya xb yb xi hi) (ck : 0 ≤ cross xa ya xb yb xk hk) :
    (xk - xi) * hj ≤ (xk - xj) * hi + (xj - xi) * hk := by
  have e : ((xk - xj) * hi + (xj - xi) * hk - (xk - xi) * hj) * (xb - xa)
      = cross xa ya xb yb xi hi * (xk - xj) + cross xa ya xb yb xk hk * (xj - xi) := by
    unfold cross at hs ⊢; linear_combination (-(xk - xi)) * hs
  exact sub_nonneg.mp (nonneg_of_comb e (sub_pos.mpr hab) ci (sub_pos.mpr hjk).le ck (sub_pos.mpr hij).le)

theorem le_chord {ga gb gi : Rat} (h1 : xa < xi) (h2 : xi < xb)
    (hs : cross xa ya xb yb xi hi = 0) (la : ga ≤ ya) (lb : gb ≤ yb)
    (cv : (xb - xa) * gi ≤ (xb - xi) * ga + (xi - xa) * gb) : gi ≤ hi := by
  have e : (hi - gi) * (xb - xa)
      = ((xb - xi) * ga + (xi - xa) * gb - (xb - xa) * gi) + (xb - xi) * (ya - ga) + (xi - xa) * (yb - gb) := by
    unfold cross at hs; linear_combination hs
  exact sub_nonneg.mp (nonneg_of_mul_pos e (sub_pos.mpr (h1.trans h2)) (add_nonneg (add_nonneg (sub_nonneg.mpr cv)
    (mul_nonneg (sub_pos.mpr h2).le (sub_nonneg.mpr la))) (mul_nonneg (sub_pos.mpr h1).le (sub_nonneg.mpr lb))))
end seg

def XIncF (x : Nat → Rat) (n : Nat) : Prop := ∀ i j, i < j → j < n → x i < x j

/-- what `isLowerHull` checks, in index form: `v 0 < … < v (m-1)` are the masked indices of a grid of `n` points; `turn`: a
left turn or none at every vertex; `above`: every grid point between two consecutive vertices is on or above their segment -/
structure Chain (x y : Nat → Rat) (n m : Nat) (v : Nat → Nat) : Prop where
  grid : XIncF x n
  mpos : 0 < m
  first : v 0 = 0
  last : v (m - 1) + 1 = n
  lt : ∀ t, t < m → v t < n
  inc : ∀ s t, s < t → t < m → v s < v t
  turn : ∀ t, t + 2 < m →
    0 ≤ cross (x (v t)) (y (v t)) (x (v (t + 1))) (y (v (t + 1))) (x (v (t + 2))) (y (v (t + 2)))
  above : ∀ t, t + 1 < m → ∀ i, v t ≤ i → i ≤ v (t + 1) →
    0 ≤ cross (x (v t)) (y (v t)) (x (v (t + 1))) (y (v (t + 1))) (x i) (y i)

/-- `h` is `np.interp` through the chain vertices: the data there, and on the line of each segment between its ends -/
structure Interp (x y h : Nat → Rat) (m : Nat) (v : Nat → Nat) : Prop where
  vert : ∀ t, t < m → h (v t) = y (v t)
  seg : ∀ t, t + 1 < m → ∀ i, v t ≤ i → i ≤ v (t + 1) →
    cross (x (v t)) (y (v t)) (x (v (t + 1))) (y (v (t + 1))) (x i) (h i) = 0

/-- `g` is convex over the abscissae `x`: the middle of three values is on or below the chord of the outer two -/
def Convex3F (x g : Nat → Rat) (n : Nat) : Prop :=
  ∀ i j k, i < j → j < k → k < n → (x k - x i) * g j ≤ (x k - x j) * g i + (x j - x i) * g k

theorem XIncF.le {x : Nat → Rat} {n : Nat} (hx : XIncF x n) {i j : Nat} (hij : i ≤ j) (hj : j < n) : x i ≤ x j := by
  rcases Nat.eq_or_lt_of_le hij with e | e
  · rw [e]
  · exact (hx i j e hj).le

theorem convex3_slopes {x g : Nat → Rat} {i j k : Nat} (hij : x i < x j) (hjk : x j < x k) :
    (x k - x i) * g j ≤ (x k - x j) * g i + (x j - x i) * g k ↔
      (g j - g i) / (x j - x i) ≤ (g k - g j) / (x k - x j) := by
  rw [div_le_div_iff₀ (by linarith) (by linarith)]
  constructor <;> intro h <;> linarith

/-- a sequence that starts at or below `i` and ends at or above it steps over `i`; no monotonicity is needed -/
theorem exists_between {v : Nat → Nat} {i : Nat} (k : Nat) (h0 : v 0 ≤ i) (hk : i ≤ v k) :
    k = 0 ∨ ∃ t, t < k ∧ v t ≤ i ∧ i ≤ v (t + 1) := by
  induction k with
  | zero => exact Or.inl rfl
  | succ k ih =>
    refine Or.inr ((Nat.le_total (v k) i).elim (fun h => ⟨k, k.lt_succ_self, h, hk⟩) fun h => ?_)
    rcases ih h with rfl | ⟨t, ht, e⟩
    · exact ⟨0, Nat.one_pos, h0, hk⟩
    · exact ⟨t, Nat.lt_succ_of_lt ht, e⟩

section chain
variable {x y h : Nat → Rat} {n m : Nat} {v : Nat → Nat}

theorem Chain.cover (c : Chain x y n m v) {i : Nat} (hi : i < n) :
    (m = 1 ∧ i = 0) ∨ ∃ t, t + 1 < m ∧ v t ≤ i ∧ i ≤ v (t + 1) := by
  have hl := c.last
  have hm := c.mpos
  refine (exists_between (m - 1) (c.first.le.trans i.zero_le) (by omega)).imp (fun e => ?_)
    fun ⟨t, ht, h⟩ => ⟨t, by omega, h⟩
  rw [e, c.first] at hl
  omega

theorem Chain.seg_x (c : Chain x y n m v) {t i : Nat} (ht : t + 1 < m) (h1 : v t ≤ i)
    (h2 : i ≤ v (t + 1)) : x (v t) < x (v (t + 1)) ∧ x (v t) ≤ x i ∧ x i ≤ x (v (t + 1)) :=
  have hb := c.lt _ ht
  ⟨c.grid _ _ (c.inc t (t + 1) (by omega) ht) hb, c.grid.le h1 (by omega), c.grid.le h2 hb⟩

theorem Interp.zero (ip : Interp x y h m v) (c : Chain x y n m v) : h 0 = y 0 := by
  have := ip.vert 0 c.mpos; rwa [c.first] at this

theorem chain_le (c : Chain x y n m v) (ip : Interp x y h m v) {i : Nat} (hi : i < n) :
    h i ≤ y i := by
  rcases c.cover hi with ⟨hm, h0⟩ | ⟨t, ht, h1, h2⟩
  · subst h0; exact le_of_eq (ip.zero c)
  · have ha := c.above t ht i h1 h2
    rw [cross_eq_height (ip.seg t ht i h1 h2)] at ha
    exact sub_nonneg.mp (nonneg_of_mul_pos rfl (sub_pos.mpr (c.seg_x ht h1 h2).1) ha)

theorem chain_vertex_above (c : Chain x y n m v) {t u : Nat} (ht : t + 1 < m) (hu : u < m) :
    0 ≤ cross (x (v t)) (y (v t)) (x (v (t + 1))) (y (v (t + 1))) (x (v u)) (y (v u)) := by
  have g := convex_local_to_global (fun t => x (v t)) (fun t => y (v t)) m
    (fun i j hij hj => c.grid _ _ (c.inc i j hij hj) (c.lt _ hj)) c.turn
  rcases Nat.lt_trichotomy u t with h1 | h1 | h1
  · rw [cross_cyc]; exact g u t (t + 1) h1 (by omega) ht
  · subst h1; rw [cross_self_left]
  · by_cases e : u = t + 1
    · subst e; rw [cross_self_right]
    · exact g t (t + 1) u (by omega) (by omega) hu

/-- the line of every chain segment supports the polygon -/
theorem chain_support (c : Chain x y n m v) (ip : Interp x y h m v)
    {t i : Nat} (ht : t + 1 < m) (hi : i < n) :
    0 ≤ cross (x (v t)) (y (v t)) (x (v (t + 1))) (y (v (t + 1))) (x i) (h i) := by
  rcases c.cover hi with ⟨hm, _⟩ | ⟨s, hs, h1, h2⟩
  · omega
  · obtain ⟨hd, x1, x2⟩ := c.seg_x hs h1 h2
    exact cross_seg_nonneg hd x1 x2 (ip.seg s hs i h1 h2) (chain_vertex_above c ht (show s < m by omega))
      (chain_vertex_above c ht hs)

theorem chain_convex (c : Chain x y n m v) (ip : Interp x y h m v) : Convex3F x h n := by
  intro i j k hij hjk hk
  -- the supporting line to use is that of the segment that holds `j`
  rcases c.cover (show j < n by omega) with ⟨_, h0⟩ | ⟨t, ht, h1, h2⟩
  · omega
  · exact convex3_of_support (c.seg_x ht h1 h2).1 (c.grid i j hij (by omega)) (c.grid j k hjk hk) (ip.seg t ht j h1 h2)
      (chain_support c ip ht (show i < n by omega)) (chain_support c ip ht hk)

theorem chain_greatest (c : Chain x y n m v) (ip : Interp x y h m v)
    {g : Nat → Rat} (hg : Convex3F x g n) (hle : ∀ i, i < n → g i ≤ y i) {i : Nat} (hi : i < n) : g i ≤ h i := by
  rcases c.cover hi with ⟨hm, h0⟩ | ⟨t, ht, h1, h2⟩
  · subst h0; rw [ip.zero c]; exact hle 0 hi
  · have hb : v (t + 1) < n := c.lt _ ht
    rcases Nat.eq_or_lt_of_le h1 with e | e1
    · rw [← e, ip.vert t (by omega)]; exact hle _ (by omega)
    rcases Nat.eq_or_lt_of_le h2 with e | e2
    · rw [e, ip.vert (t + 1) ht]; exact hle _ hb
    exact le_chord (c.grid _ _ e1 hi) (c.grid _ _ e2 hb) (ip.seg t ht i h1 h2) (hle _ (by omega)) (hle _ hb)
      (hg _ _ _ e1 e2 hb)

end chain

theorem chain_unique {x y h h' : Nat → Rat} {n m m' : Nat} {v v' : Nat → Nat}
    (c : Chain x y n m v) (ip : Interp x y h m v) (c' : Chain x y n m' v') (ip' : Interp x y h' m' v')
    {i : Nat} (hi : i < n) : h i = h' i :=
  le_antisymm
    (chain_greatest c' ip' (chain_convex c ip) (fun _ hj => chain_le c ip hj) hi)
    (chain_greatest c ip (chain_convex c' ip') (fun _ hj => chain_le c' ip' hj) hi)

/-! ### the list model: `np.interp` over sorted samples -/

def XInc (pts : List (Rat × Rat)) : Prop := pts.Pairwise fun p q => p.1 < q.1

theorem XInc.head_le {l : List (Rat × Rat)} (hs : XInc l) {p : Rat × Rat} (hp : p ∈ l) : (l.getD 0 (0, 0)).1 ≤ p.1 := by
  cases l with
  | nil => cases hp
  | cons q rest =>
    rcases List.mem_cons.mp hp with rfl | h
    · exact le_refl _
    · exact (List.rel_of_pairwise_cons hs h).le

theorem interp1_cons2 (p q : Rat × Rat) (rest : List (Rat × Rat)) (x : Rat) :
    interp1 (p :: q :: rest) x =
      if x < q.1 then (if x ≤ p.1 then p.2 else (q.2 - p.2) / (q.1 - p.1) * (x - p.1) + p.2)
      else interp1 (q :: rest) x := by
  simp [interp1]

theorem interp1_le_head (p : Rat × Rat) (rest : List (Rat × Rat)) (hs : XInc (p :: rest)) (x : Rat) (hx : x ≤ p.1) :
    interp1 (p :: rest) x = p.2 := by
  cases rest with
  | nil => simp [interp1]
  | cons q rest =>
    rw [interp1_cons2, if_pos (lt_of_le_of_lt hx (List.rel_of_pairwise_cons hs List.mem_cons_self)), if_pos hx]

theorem interp1_cons_of_le (p : Rat × Rat) (l : List (Rat × Rat)) (hs : XInc (p :: l)) {x : Rat}
    (hw : ∃ w ∈ l, w.1 ≤ x) : interp1 (p :: l) x = interp1 l x := by
  obtain ⟨w, hw, hx⟩ := hw
  cases l with
  | nil => cases hw
  | cons q rest =>
    have hq : q.1 ≤ w.1 := XInc.head_le (List.Pairwise.of_cons hs) hw
    rw [interp1_cons2, if_neg (not_lt.mpr (hq.trans hx))]

/-- `np.interp` is local: samples before one at or left of `x` do not matter … -/
theorem interp1_append_right (c1 c2 : List (Rat × Rat)) (hs : XInc (c1 ++ c2)) (x : Rat)
    (hw : ∃ p ∈ c2, p.1 ≤ x) : interp1 (c1 ++ c2) x = interp1 c2 x := by
  induction c1 with
  | nil => rfl
  | cons p c1 ih =>
    obtain ⟨w, hw2, hwx⟩ := hw
    rw [List.cons_append, interp1_cons_of_le p (c1 ++ c2) hs ⟨w, List.mem_append_right _ hw2, hwx⟩,
      ih (List.Pairwise.of_cons hs)]

/-- … nor do samples after one at or right of `x` -/
theorem interp1_append_left (c1 c2 : List (Rat × Rat)) (hs : XInc (c1 ++ c2)) (x : Rat)
    (hw : ∃ p ∈ c1, x ≤ p.1) : interp1 (c1 ++ c2) x = interp1 c1 x := by
  obtain ⟨w, hw, hx⟩ := hw
  induction c1, x using interp1.induct with
  | case1 => cases hw
  | case2 p x => rw [List.mem_singleton.mp hw] at hx; exact interp1_le_head p c2 hs x hx
  | case3 p q rest x h1 h2 => simp only [List.cons_append, interp1_cons2, if_pos h1]
  | case4 p q rest x h1 h2 => simp only [List.cons_append, interp1_cons2, if_pos h1]
  | case5 p q rest x h1 ih =>
    simp only [List.cons_append, interp1_cons2, if_neg h1] at ih ⊢
    refine ih (List.Pairwise.of_cons hs) ((List.mem_cons.mp hw).resolve_left ?_) hx
    rintro rfl
    exact h1 (lt_of_le_of_lt hx (List.rel_of_pairwise_cons hs List.mem_cons_self))

theorem interp1_vert {ch : List (Rat × Rat)} (hs : XInc ch) {p : Rat × Rat} (hp : p ∈ ch) : interp1 ch p.1 = p.2 := by
  obtain ⟨s, r, rfl⟩ := List.append_of_mem hp
  rw [interp1_append_right s _ hs _ ⟨p, List.mem_cons_self, le_rfl⟩,
    interp1_le_head p r (List.pairwise_append.mp hs).2.1 _ le_rfl]

theorem interp1_pair (s r : List (Rat × Rat)) (a b : Rat × Rat) (hs : XInc (s ++ a :: b :: r)) (x : Rat)
    (h1 : a.1 ≤ x) (h2 : x ≤ b.1) : cross a.1 a.2 b.1 b.2 x (interp1 (s ++ a :: b :: r) x) = 0 := by
  have hr := (List.pairwise_append.mp hs).2.1
  rw [interp1_append_right s _ hs x ⟨a, List.mem_cons_self, h1⟩, interp1_cons2, cross, sub_eq_zero]
  -- `x` at `a` (left branch), strictly between `a` and `b` (the segment formula), or at `b` (the recursion moves on)
  by_cases hx : x < b.1
  · rw [if_pos hx]
    by_cases hx0 : x ≤ a.1
    · rw [if_pos hx0, le_antisymm hx0 h1]; ring
    · rw [if_neg hx0, add_sub_cancel_right, ← mul_assoc,
        mul_div_cancel₀ _ (sub_ne_zero.mpr (List.rel_of_pairwise_cons hr List.mem_cons_self).ne')]
  · rw [if_neg hx, interp1_le_head b r hr.of_cons x h2, le_antisymm h2 (not_lt.mp hx)]; ring

theorem split_two {α : Type} (l : List α) (t : Nat) (ht : t + 1 < l.length) (d : α) :
    l = l.take t ++ l.getD t d :: l.getD (t + 1) d :: l.drop (t + 2) := by
  rw [getD_of_lt _ ht, getD_of_lt _ (Nat.lt_of_succ_lt ht), List.getElem_cons_drop, List.getElem_cons_drop,
    List.take_append_drop]

theorem interp1_seg (ch : List (Rat × Rat)) (hs : XInc ch) (t : Nat) (ht : t + 1 < ch.length) (x : Rat)
    (h1 : (ch.getD t (0, 0)).1 ≤ x) (h2 : x ≤ (ch.getD (t + 1) (0, 0)).1) :
    cross (ch.getD t (0, 0)).1 (ch.getD t (0, 0)).2 (ch.getD (t + 1) (0, 0)).1 (ch.getD (t + 1) (0, 0)).2 x (interp1 ch x)
      = 0 := by
  have e := split_two ch t ht (0, 0)
  have := interp1_pair _ _ _ _ (e ▸ hs) x h1 h2
  rwa [← e] at this

/-! ### the certificate in index form -/

theorem maskIdx_pairwise (n : Nat) (mask : List Bool) : (maskIdx n mask).Pairwise (· < ·) :=
  List.Pairwise.filter _ List.pairwise_lt_range

theorem mem_maskIdx {n : Nat} {mask : List Bool} {i : Nat} : i ∈ maskIdx n mask ↔ i < n ∧ mask.getD i false = true := by
  simp [maskIdx]

theorem maskIdx_lt {n : Nat} {mask : List Bool} {i : Nat} (h : i ∈ maskIdx n mask) : i < n := (mem_maskIdx.mp h).1

def px (pts : List (Rat × Rat)) (i : Nat) : Rat := (pts.getD i (0, 0)).1
def py (pts : List (Rat × Rat)) (i : Nat) : Rat := (pts.getD i (0, 0)).2
def vt (n : Nat) (mask : List Bool) (t : Nat) : Nat := (maskIdx n mask).getD t 0

theorem vt_spec {n : Nat} {mask : List Bool} {t : Nat} (ht : t < (maskIdx n mask).length) :
    vt n mask t < n ∧ mask.getD (vt n mask t) false = true := mem_maskIdx.mp (getD_mem 0 ht)

theorem vt_inc {n : Nat} {mask : List Bool} {s t : Nat} (hst : s < t) (ht : t < (maskIdx n mask).length) :
    vt n mask s < vt n mask t := pairwise_getD (maskIdx_pairwise n mask) 0 hst ht

/-- `isLowerHull` with the index list and the point lookup abstracted -/
def certOn (p : Nat → Rat × Rat) (n : Nat) (idx : List Nat) : Bool :=
  let pairs := idx.zip idx.tail
  (idx.head? == some 0) && (idx.getLast? == some (n - 1)) &&
  (pairs.zip pairs.tail).all (fun ((a, b), (_, c)) =>
      decide (cross (p a).1 (p a).2 (p b).1 (p b).2 (p c).1 (p c).2 ≥ 0)) &&
  pairs.all (fun (a, b) => (List.range (b - a + 1)).all fun t =>
      decide (cross (p a).1 (p a).2 (p b).1 (p b).2 (p (a + t)).1 (p (a + t)).2 ≥ 0))

/-- the masked indices as the table of their `getD`, the form `certOn_tab` reads -/
theorem isLowerHull_eq_certOn (pts : List (Rat × Rat)) (mask : List Bool) :
    isLowerHull pts mask = certOn (fun i => pts.getD i (0, 0)) pts.length
      ((List.range (maskIdx pts.length mask).length).map (vt pts.length mask)) := by
  rw [show vt pts.length mask = ((maskIdx pts.length mask).getD · 0) from rfl, map_getD_range]
  rfl

/-- the consecutive pairs, and pairs of pairs, of a table are tables again (`zip_tail_tab`), so `simp` unfolds the checks -/
theorem certOn_tab (p : Nat → Rat × Rat) (n m : Nat) (v : Nat → Nat) :
    certOn p n ((List.range m).map v) = true ↔ (m ≠ 0 ∧ v 0 = 0) ∧ (m ≠ 0 ∧ v (m - 1) = n - 1) ∧
      (∀ t, t + 2 < m → 0 ≤ cross (p (v t)).1 (p (v t)).2 (p (v (t + 1))).1 (p (v (t + 1))).2
          (p (v (t + 2))).1 (p (v (t + 2))).2) ∧
      ∀ t, t + 1 < m → ∀ s, s ≤ v (t + 1) - v t →
        0 ≤ cross (p (v t)).1 (p (v t)).2 (p (v (t + 1))).1 (p (v (t + 1))).2 (p (v t + s)).1 (p (v t + s)).2 := by
  have hopt : ∀ a b : Nat, Option.map v (if m = 0 then none else some a) = some b ↔ m ≠ 0 ∧ v a = b := by
    intro a b; split <;> simp [*]
  simp only [certOn, zip_tail_tab, Bool.and_eq_true, beq_iff_eq, List.all_eq_true, decide_eq_true_eq, ge_iff_le,
    List.mem_map, List.mem_range, forall_exists_index, and_imp, forall_apply_eq_imp_iff₂, and_assoc, Nat.lt_succ_iff,
    List.head?_map, List.head?_range, List.getLast?_map, List.getLast?_range, Nat.lt_sub_iff_add_lt, hopt]

theorem certOn_chain (p : Nat → Rat × Rat) (n m : Nat) (v : Nat → Nat) (hx : XIncF (fun i => (p i).1) n)
    (hlt : ∀ t, t < m → v t < n) (hinc : ∀ s t, s < t → t < m → v s < v t) (hc : certOn p n ((List.range m).map v) = true) :
    Chain (fun i => (p i).1) (fun i => (p i).2) n m v := by
  obtain ⟨⟨hm, h1⟩, ⟨_, h2⟩, h3, h4⟩ := (certOn_tab p n m v).mp hc
  have := hlt (m - 1) (by omega)
  refine ⟨hx, by omega, h1, by omega, hlt, hinc, h3, fun t ht i hi1 hi2 => ?_⟩
  have := h4 t ht (i - v t) (Nat.sub_le_sub_right hi2 _)
  rwa [Nat.add_sub_cancel' hi1] at this

theorem XInc.grid {pts : List (Rat × Rat)} (hx : XInc pts) : XIncF (px pts) pts.length :=
  fun _ _ hij hj => pairwise_getD hx (0, 0) hij hj

theorem hullInterp_length (pts : List (Rat × Rat)) (mask : List Bool) : (hullInterp pts mask).length = pts.length := by
  simp [hullInterp]

/-- `zip x[mask] y[mask]`, the samples handed to `np.interp` -/
def chainOf (pts : List (Rat × Rat)) (mask : List Bool) : List (Rat × Rat) :=
  (maskIdx pts.length mask).map fun i => pts.getD i (0, 0)

theorem hullInterp_eq (pts : List (Rat × Rat)) (mask : List Bool) :
    hullInterp pts mask = pts.map fun p => interp1 (chainOf pts mask) p.1 := rfl

theorem hullInterp_getD (pts : List (Rat × Rat)) (mask : List Bool) {i : Nat} (hi : i < pts.length) :
    (hullInterp pts mask).getD i 0 = interp1 (chainOf pts mask) (px pts i) :=
  getD_map_of_lt _ (0, 0) 0 hi

theorem mem_chainOf {pts : List (Rat × Rat)} {mask : List Bool} {i : Nat} (hi : i < pts.length)
    (hm : mask.getD i false = true) : pts.getD i (0, 0) ∈ chainOf pts mask :=
  List.mem_map_of_mem (mem_maskIdx.mpr ⟨hi, hm⟩)

theorem chainOf_xinc {pts : List (Rat × Rat)} (hx : XInc pts) (mask : List Bool) : XInc (chainOf pts mask) := by
  have h := (List.filter_sublist (p := fun i => mask.getD i false) (l := List.range pts.length)).map (pts.getD · (0, 0))
  rw [map_getD_range] at h
  exact hx.sublist h

theorem chainOf_getD (pts : List (Rat × Rat)) (mask : List Bool) {t : Nat} (ht : t < (maskIdx pts.length mask).length) :
    (chainOf pts mask).getD t (0, 0) = (px pts (vt pts.length mask t), py pts (vt pts.length mask t)) :=
  getD_map_of_lt _ 0 (0, 0) ht

theorem hullInterp_vertex (pts : List (Rat × Rat)) (mask : List Bool) (hx : XInc pts)
    {i : Nat} (hi : i < pts.length) (hm : mask.getD i false = true) : (hullInterp pts mask).getD i 0 = py pts i := by
  rw [hullInterp_getD pts mask hi]
  exact interp1_vert (chainOf_xinc hx mask) (mem_chainOf hi hm)

theorem Interp.of_hullInterp (pts : List (Rat × Rat)) (mask : List Bool) (hx : XInc pts) :
    Interp (px pts) (py pts) (fun i => (hullInterp pts mask).getD i 0) (maskIdx pts.length mask).length
      (vt pts.length mask) := by
  have hs := chainOf_xinc hx mask
  have hlen : (chainOf pts mask).length = (maskIdx pts.length mask).length := by simp [chainOf]
  constructor
  · exact fun t ht => hullInterp_vertex pts mask hx (vt_spec ht).1 (vt_spec ht).2
  · intro t ht i h1 h2
    have hb := (vt_spec ht).1
    have hi : i < pts.length := by omega
    have := interp1_seg (chainOf pts mask) hs t (hlen ▸ ht) (px pts i)
    rw [chainOf_getD pts mask (Nat.lt_of_succ_lt ht), chainOf_getD pts mask ht] at this
    rw [hullInterp_getD pts mask hi]
    exact this ((XInc.grid hx).le h1 hi) ((XInc.grid hx).le h2 hb)

theorem Chain.of_isLowerHull (pts : List (Rat × Rat)) (mask : List Bool) (hx : XInc pts) (hc : isLowerHull pts mask = true) :
    Chain (px pts) (py pts) pts.length (maskIdx pts.length mask).length (vt pts.length mask) :=
  certOn_chain (fun i => pts.getD i (0, 0)) _ _ _ hx.grid (fun _ ht => (vt_spec ht).1) (fun _ _ => vt_inc)
    (isLowerHull_eq_certOn pts mask ▸ hc)

def Convex3 (pts : List (Rat × Rat)) (g : Nat → Rat) : Prop := Convex3F (px pts) g pts.length

/-! ### adding a constant to the ordinates -/

theorem certOn_congr_shift (p p' : Nat → Rat × Rat) (c : Rat) (n m : Nat) (v : Nat → Nat) (hlt : ∀ t, t < m → v t < n)
    (hp : ∀ i, i < n → p' i = ((p i).1, (p i).2 + c)) :
    certOn p' n ((List.range m).map v) = certOn p n ((List.range m).map v) := by
  rw [Bool.eq_iff_iff, certOn_tab, certOn_tab]
  refine and_congr_right fun _ => and_congr_right fun _ => and_congr (forall₂_congr fun t ht => ?_)
    (forall₂_congr fun t ht => forall₂_congr fun s hs => ?_)
  · simp only [hp _ (hlt t (by omega)), hp _ (hlt (t + 1) (by omega)), hp _ (hlt (t + 2) ht), cross_shift]
  · have h0 := hlt t (by omega)
    have h1 := hlt (t + 1) ht
    simp only [hp _ h0, hp _ h1, hp (v t + s) (by omega), cross_shift]

theorem shiftPts_length (c : Rat) (pts : List (Rat × Rat)) : (shiftPts c pts).length = pts.length := by
  simp [shiftPts]

theorem shiftPts_getD (c : Rat) (pts : List (Rat × Rat)) {i : Nat} (hi : i < pts.length) :
    (shiftPts c pts).getD i (0, 0) = ((pts.getD i (0, 0)).1, (pts.getD i (0, 0)).2 + c) :=
  getD_map_of_lt _ (0, 0) (0, 0) hi

theorem isLowerHull_shift (c : Rat) (pts : List (Rat × Rat)) (mask : List Bool) :
    isLowerHull (shiftPts c pts) mask = isLowerHull pts mask := by
  rw [isLowerHull_eq_certOn, isLowerHull_eq_certOn, shiftPts_length]
  exact certOn_congr_shift _ _ c _ _ _ (fun _ ht => (vt_spec ht).1) (fun i hi => shiftPts_getD c pts hi)

theorem interp1_shift (c : Rat) (ch : List (Rat × Rat)) (hne : ch ≠ []) (x : Rat) :
    interp1 (ch.map fun p => (p.1, p.2 + c)) x = interp1 ch x + c := by
  fun_induction interp1 ch x with
  | case1 => exact absurd rfl hne
  | case2 => rfl
  | case3 p q rest x h1 h2 => simp only [List.map_cons, interp1_cons2, if_pos h1, if_pos h2]
  | case4 p q rest x h1 h2 => simp only [List.map_cons, interp1_cons2, if_pos h1, if_neg h2]; ring
  | case5 p q rest x h1 ih => simp only [List.map_cons, interp1_cons2, if_neg h1] at ih ⊢; exact ih (by simp)

theorem hullInterp_shift (c : Rat) (pts : List (Rat × Rat)) (mask : List Bool)
    (hm : ∃ i, i < pts.length ∧ mask.getD i false = true) :
    hullInterp (shiftPts c pts) mask = (hullInterp pts mask).map (· + c) := by
  obtain ⟨i0, hi0, hm0⟩ := hm
  have hne : chainOf pts mask ≠ [] := List.ne_nil_of_mem (mem_chainOf hi0 hm0)
  have hch : chainOf (shiftPts c pts) mask = (chainOf pts mask).map fun p => (p.1, p.2 + c) := by
    unfold chainOf
    rw [shiftPts_length, List.map_map]
    exact List.map_congr_left fun _ hi => shiftPts_getD c pts (maskIdx_lt hi)
  rw [hullInterp_eq, hullInterp_eq, hch]
  simp only [shiftPts, List.map_map]
  exact List.map_congr_left fun p _ => interp1_shift c _ hne p.1

/-! ### `segments`: data and mask of two segments appended -/

theorem maskIdx_append (a b : Nat) (mA mB : List Bool) (hlen : mA.length = a) :
    maskIdx (a + b) (mA ++ mB) = maskIdx a mA ++ (maskIdx b mB).map (a + ·) := by
  unfold maskIdx
  rw [List.range_add, List.filter_append, List.filter_map]
  congr 1
  · apply List.filter_congr
    intro i hi
    rw [getD_append, if_pos (hlen ▸ List.mem_range.mp hi)]
  · congr 1
    apply List.filter_congr
    intro j _
    rw [Function.comp, getD_append, if_neg (by omega), hlen, Nat.add_sub_cancel_left]

theorem chainOf_append (A B : List (Rat × Rat)) (mA mB : List Bool) (hlen : mA.length = A.length) :
    chainOf (A ++ B) (mA ++ mB) = chainOf A mA ++ chainOf B mB := by
  unfold chainOf
  rw [List.length_append, maskIdx_append _ _ _ _ hlen, List.map_append, List.map_map]
  congr 1
  · apply List.map_congr_left
    intro i hi
    rw [getD_append, if_pos (maskIdx_lt hi)]
  · apply List.map_congr_left
    intro j _
    rw [Function.comp, getD_append, if_neg (by omega), Nat.add_sub_cancel_left]

theorem XInc.le_last {A : List (Rat × Rat)} (hx : XInc A) {p : Rat × Rat} (hp : p ∈ A) :
    p.1 ≤ (A.getD (A.length - 1) (0, 0)).1 := by
  obtain ⟨i, hi, rfl⟩ := List.mem_iff_getElem.mp hp
  have := (XInc.grid hx).le (show i ≤ A.length - 1 by omega) (by omega)
  rwa [px, getD_of_lt (0, 0) hi] at this

end PbVerif.Lemmas.Hull
