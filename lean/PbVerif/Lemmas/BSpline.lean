import PbVerif.Model.BSpline
import PbVerif.Lemmas.Scatter
import Mathlib.Tactic.Ring
import Mathlib.Algebra.Order.Field.Rat
/-! The B-spline kernels of `_spline_utils.py` (C12; the knot indices `_find_interval` reads and the layout of the rows, C05), three
subjects that meet only in `designRows_wf`: `_find_interval` for arbitrary outcomes of its comparisons; a pass of `_de_boor` is
the Cox–de Boor step, its `continue` branch being `Rat`'s division by zero; `_numba_btb_bty` accumulates the entries of `B'WB`
and `B'Wy` of any rows (`Scatter`). -/
namespace PbVerif.Lemmas
open PbVerif.BSpline

/-! ### `_find_interval` -/

/-- only the last conjunct, why the loop stopped, needs the fuel `findIntervalT` gives -/
theorem down_spec (lt : Nat → Bool) (deg f left : Nat) (h : deg ≤ left) :
    deg ≤ (down lt deg f left).1 ∧ (down lt deg f left).1 ≤ left ∧
    (∀ i ∈ (down lt deg f left).2, i ≤ left) ∧
    (left - deg + 1 ≤ f → lt (down lt deg f left).1 = false ∨ (down lt deg f left).1 = deg) := by
  induction f generalizing left with
  | zero => exact ⟨h, Nat.le_refl _, by simp [down], fun hf => by omega⟩
  | succ f ih =>
    simp only [down]
    by_cases hc : (lt left && left != deg) = true
    · rw [if_pos hc]
      simp only [Bool.and_eq_true, bne_iff_ne, ne_eq] at hc
      obtain ⟨h1, h2, h3, h4⟩ := ih (left - 1) (by omega)
      exact ⟨h1, h2.trans (Nat.sub_le _ _),
        List.forall_mem_cons.mpr ⟨Nat.le_refl _, fun i hi => (h3 i hi).trans (Nat.sub_le _ _)⟩, fun hf => h4 (by omega)⟩
    · rw [if_neg hc]
      refine ⟨h, Nat.le_refl _, List.forall_mem_singleton.mpr (Nat.le_refl _), fun _ => ?_⟩
      simp only [Bool.and_eq_true, bne_iff_ne, ne_eq, not_and, Decidable.not_not] at hc
      exact (Bool.eq_false_or_eq_true (lt left)).symm.imp_right hc

theorem up_spec (ge : Nat → Bool) (nb f left : Nat) (h : left ≤ nb) :
    left ≤ (up ge nb f left).1 ∧ (up ge nb f left).1 ≤ nb ∧
    (∀ i ∈ (up ge nb f left).2, i ≤ nb) ∧
    ((up ge nb f left).1 = left ∨ ge ((up ge nb f left).1 - 1) = true) ∧
    (nb - left + 1 ≤ f → ge (up ge nb f left).1 = false ∨ (up ge nb f left).1 = nb) := by
  induction f generalizing left with
  | zero => exact ⟨Nat.le_refl _, h, by simp [up], Or.inl rfl, fun hf => by omega⟩
  | succ f ih =>
    simp only [up]
    by_cases hc : (ge left && left != nb) = true
    · rw [if_pos hc]
      simp only [Bool.and_eq_true, bne_iff_ne, ne_eq] at hc
      obtain ⟨h1, h2, h3, h4, h5⟩ := ih (left + 1) (by omega)
      -- the index before the result passed the test: `left`, or the one the remaining run finds
      exact ⟨Nat.le_of_succ_le h1, h2, List.forall_mem_cons.mpr ⟨h, h3⟩,
        Or.inr (h4.elim (fun e => by rw [e, Nat.add_sub_cancel]; exact hc.1) id), fun hf => h5 (by omega)⟩
    · rw [if_neg hc]
      refine ⟨Nat.le_refl _, h, List.forall_mem_singleton.mpr h, Or.inl rfl, fun _ => ?_⟩
      simp only [Bool.and_eq_true, bne_iff_ne, ne_eq, not_and, Decidable.not_not] at hc
      exact (Bool.eq_false_or_eq_true (ge left)).symm.imp_right hc

theorem down_congr (lt lt' : Nat → Bool) (deg f g left : Nat) (hl : deg ≤ left)
    (hf : left - deg + 1 ≤ f) (hg : left - deg + 1 ≤ g) (h : ∀ i, deg ≤ i → i ≤ left → lt i = lt' i) :
    down lt deg f left = down lt' deg g left := by
  induction f generalizing left g with
  | zero => omega
  | succ f ih =>
    cases g with
    | zero => omega
    | succ g =>
      simp only [down]
      rw [← h left hl (Nat.le_refl _)]
      split
      · rename_i hc
        simp only [Bool.and_eq_true, bne_iff_ne, ne_eq] at hc
        rw [ih g (left - 1) (by omega) (by omega) (by omega) fun i h1 h2 => h i h1 (by omega)]
      · rfl

theorem up_congr (ge ge' : Nat → Bool) (nb f g left : Nat) (hl : left ≤ nb)
    (hf : nb - left + 1 ≤ f) (hg : nb - left + 1 ≤ g) (h : ∀ i, left ≤ i → i ≤ nb → ge i = ge' i) :
    up ge nb f left = up ge' nb g left := by
  induction f generalizing left g with
  | zero => omega
  | succ f ih =>
    cases g with
    | zero => omega
    | succ g =>
      simp only [up]
      rw [← h left (Nat.le_refl _) hl]
      split
      · rename_i hc
        simp only [Bool.and_eq_true, bne_iff_ne, ne_eq] at hc
        rw [ih g (left + 1) (by omega) (by omega) (by omega) fun i h1 h2 => h i (by omega) h2]
      · rfl

/-- with the fuel `findIntervalT` gives, the fuel-`0` equations of `down`/`up` are never reached: the model is the `while` loop.
False without `deg ≤ left`: `down (fun _ => true) 5 2 3 = (1, [3, 2])`, `down (fun _ => true) 5 1 3 = (2, [3])`. -/
theorem down_fuel (lt : Nat → Bool) (deg f left : Nat) (hl : deg ≤ left) (h : left - deg + 1 ≤ f) :
    down lt deg f left = down lt deg (left - deg + 1) left :=
  down_congr lt lt deg f _ left hl h (Nat.le_refl _) fun _ _ _ => rfl
theorem up_fuel (ge : Nat → Bool) (nb f left : Nat) (h : nb - left + 1 ≤ f) (hl : left ≤ nb) :
    up ge nb f left = up ge nb (nb - left + 1) left :=
  up_congr ge ge nb f _ left hl h (Nat.le_refl _) fun _ _ _ => rfl

theorem findInterval_start (deg lastLeft nb : Nat) (h : deg < nb) :
    deg ≤ (if deg < lastLeft ∧ lastLeft < nb then lastLeft else deg) ∧
      (if deg < lastLeft ∧ lastLeft < nb then lastLeft else deg) < nb := by
  split <;> omega

/-- last two conjuncts: the first loop stopped at the result `r` or the second passed it; the second stopped at `r + 1` -/
theorem findIntervalT_spec (lt ge : Nat → Bool) (deg lastLeft nb : Nat) (h : deg < nb) :
    deg ≤ (findIntervalT lt ge deg lastLeft nb).1 ∧ (findIntervalT lt ge deg lastLeft nb).1 < nb ∧
    (∀ i ∈ (findIntervalT lt ge deg lastLeft nb).2, i ≤ nb) ∧
    (lt (findIntervalT lt ge deg lastLeft nb).1 = false ∨ (findIntervalT lt ge deg lastLeft nb).1 = deg ∨
      ge (findIntervalT lt ge deg lastLeft nb).1 = true) ∧
    (ge ((findIntervalT lt ge deg lastLeft nb).1 + 1) = false ∨ (findIntervalT lt ge deg lastLeft nb).1 + 1 = nb) := by
  rw [findIntervalT]
  have hl0a := findInterval_start deg lastLeft nb h
  generalize (if deg < lastLeft ∧ lastLeft < nb then lastLeft else deg) = l0 at hl0a ⊢
  obtain ⟨d1, d2, d3, d4⟩ := down_spec lt deg (l0 - deg + 1) l0 hl0a.1
  generalize down lt deg (l0 - deg + 1) l0 = d at d1 d2 d3 d4
  obtain ⟨u1, u2, u3, u4, u5⟩ := up_spec ge nb (nb - d.1 + 1) (d.1 + 1) (by omega)
  generalize up ge nb (nb - d.1 + 1) (d.1 + 1) = u at u1 u2 u3 u4 u5
  have e : u.1 - 1 + 1 = u.1 := by omega
  refine ⟨by omega, by omega, ?_, ?_, by rw [e]; exact u5 (by omega)⟩
  · intro i hi
    rcases List.mem_append.mp hi with hi | hi
    · have := d3 i hi; omega
    · exact u3 i hi
  · rcases u4 with hu | hu
    · rw [hu, Nat.add_sub_cancel]
      exact (d4 (Nat.le_refl _)).imp_right Or.inl
    · exact Or.inr (Or.inr hu)

theorem findIntervalT_inb (lt ge : Nat → Bool) (deg lastLeft nb : Nat) (h : deg < nb) :
    deg ≤ (findIntervalT lt ge deg lastLeft nb).1 ∧ (findIntervalT lt ge deg lastLeft nb).1 < nb ∧
    ∀ i ∈ (findIntervalT lt ge deg lastLeft nb).2, i ≤ nb :=
  have H := findIntervalT_spec lt ge deg lastLeft nb h
  ⟨H.1, H.2.1, H.2.2.1⟩

theorem findIntervalT_congr (lt lt' ge ge' : Nat → Bool) (deg lastLeft nb : Nat) (hd : deg < nb)
    (h1 : ∀ i, i ≤ nb → lt i = lt' i) (h2 : ∀ i, i ≤ nb → ge i = ge' i) :
    findIntervalT lt ge deg lastLeft nb = findIntervalT lt' ge' deg lastLeft nb := by
  simp only [findIntervalT]
  have hl0a := findInterval_start deg lastLeft nb hd
  generalize (if deg < lastLeft ∧ lastLeft < nb then lastLeft else deg) = l0 at hl0a ⊢
  rw [down_congr lt lt' deg _ _ l0 hl0a.1 (Nat.le_refl _) (Nat.le_refl _) fun i _ hi => h1 i (by omega)]
  have hdb := (down_spec lt' deg (l0 - deg + 1) l0 hl0a.1).2.1
  generalize down lt' deg (l0 - deg + 1) l0 = d at hdb ⊢
  rw [up_congr ge ge' nb _ (nb - d.1 + 1) _ (by omega) (by omega) (by omega) fun i _ hi => h2 i hi]

theorem findInterval_spec (knots : List Rat) (deg nb : Nat) (x : Rat) (lastLeft : Nat)
    (hs : knots.Pairwise (· ≤ ·)) (hlen : knots.length = nb + deg + 1) (hd : deg < nb)
    (hlo : knots.getD deg 0 ≤ x) :
    let r := findInterval knots deg x lastLeft nb
    deg ≤ r ∧ r < nb ∧ knots.getD r 0 ≤ x ∧ (x < knots.getD (r + 1) 0 ∨ r + 1 = nb) := by
  obtain ⟨h1, h2, _, h4, h5⟩ := findIntervalT_spec (fun i => decide (x < knots.getD i 0))
    (fun i => decide (x ≥ knots.getD i 0)) deg lastLeft nb hd
  refine ⟨h1, h2, ?_, h5.imp_left fun h => not_le.mp (of_decide_eq_false h)⟩
  rcases h4 with h | h | h
  · exact not_lt.mp (of_decide_eq_false h)
  · exact (congrArg (fun r => knots.getD r 0 ≤ x) h).mpr hlo
  · exact of_decide_eq_true h

/-! ### `_de_boor`: a pass is the Cox–de Boor step (C12) -/

theorem deBoorStep_length (knots : List Rat) (x : Rat) (left i : Nat) (old : List Rat) :
    (deBoorStep knots x left i old).length = i + 1 := by
  rw [deBoorStep, List.length_map, List.length_range]

theorem deBoorUpTo_length (knots : List Rat) (x : Rat) (left i : Nat) :
    (deBoorUpTo knots x left i).length = i + 1 := by
  cases i with
  | zero => rfl
  | succ i => exact deBoorStep_length ..

theorem deBoor_length (knots : List Rat) (x : Rat) (deg left : Nat) : (deBoor knots x deg left).length = deg + 1 :=
  deBoorUpTo_length knots x left deg

/-- `if left_knot == right_knot: continue` leaves `factor = 0`; so does the division it guards, `Rat` having `o / 0 = 0` -/
theorem factor_eq (lk rk o : Rat) : (if lk = rk then 0 else o / (rk - lk)) = o / (rk - lk) := by
  split
  · next h => rw [h, sub_self, div_zero]
  · rfl

/-- pass `i + 1` of `_de_boor` at `left = m + i + 1`: entry `j` combines `old[j-1]` and `old[j]` with the two weights of the
Cox–de Boor recursion for `B_{m+j, i+1}` -/
theorem deBoorStep_eq (knots : List Rat) (x : Rat) (left m i : Nat) (old : List Rat) (hm : m + i + 1 = left) :
    deBoorStep knots x left (i + 1) old = (List.range (i + 2)).map fun j =>
      (if 1 ≤ j then (x - knots.getD (m + j) 0) / (knots.getD (m + j + i + 1) 0 - knots.getD (m + j) 0) * old.getD (j - 1) 0 else 0) +
      (if j ≤ i then (knots.getD (m + (j + 1) + i + 1) 0 - x) /
        (knots.getD (m + (j + 1) + i + 1) 0 - knots.getD (m + (j + 1)) 0) * old.getD j 0 else 0) := by
  refine List.map_congr_left fun j _ => ?_
  have e1 : ∀ j, left + j - (i + 1) = m + j := fun j => by omega
  have e2 : ∀ j, left + j = m + j + i + 1 := fun j => by omega
  dsimp only
  rw [e1, e1, Nat.add_assoc left, e2, e2, factor_eq, factor_eq, Nat.add_sub_cancel, div_mul_comm (old.getD (j - 1) 0),
    div_mul_comm (old.getD j 0)]
  simp only [Nat.add_le_add_iff_right]

theorem knots_mono (knots : List Rat) (hs : knots.Pairwise (· ≤ ·)) {i j : Nat} (hij : i ≤ j)
    (hj : j < knots.length) : knots.getD i 0 ≤ knots.getD j 0 :=
  pairwise_getD_of_le hs (fun _ => Rat.le_refl) 0 hij hj

/-- `cox` without its `0/0 := 0` guards, which `Rat`'s division makes redundant -/
theorem cox_succ (knots : List Rat) (p k : Nat) (x : Rat) :
    cox knots (p + 1) k x =
      (x - knots.getD k 0) / (knots.getD (k + p + 1) 0 - knots.getD k 0) * cox knots p k x +
      (knots.getD (k + 1 + p + 1) 0 - x) / (knots.getD (k + 1 + p + 1) 0 - knots.getD (k + 1) 0) * cox knots p (k + 1) x := by
  rw [cox, Nat.add_right_comm k 1 p]
  congr 1
  · split
    · next h => rw [h, div_zero, zero_mul]
    · rfl
  · split
    · next h => rw [h, div_zero, zero_mul]
    · rfl

theorem cox_zero_left (knots : List Rat) (hs : knots.Pairwise (· ≤ ·)) (x : Rat) (p m : Nat)
    (hm : m + p < knots.length) (hx : x < knots.getD m 0) : cox knots p m x = 0 := by
  induction p generalizing m with
  | zero => exact if_neg fun h => absurd hx (not_lt.mpr h.1)
  | succ p ih =>
    have h1 := knots_mono knots hs (Nat.le_succ m) (by omega)
    rw [cox_succ, ih m (by omega) hx, ih (m + 1) (by omega) (lt_of_lt_of_le hx h1), mul_zero, mul_zero, add_zero]

theorem cox_zero_right (knots : List Rat) (hs : knots.Pairwise (· ≤ ·)) (x : Rat) (p m : Nat)
    (hm : m + p + 1 < knots.length) (hx : knots.getD (m + p + 1) 0 ≤ x) : cox knots p m x = 0 := by
  induction p generalizing m with
  | zero => exact if_neg fun h => absurd hx (not_le.mpr h.2)
  | succ p ih =>
    have h1 := knots_mono knots hs (Nat.le_succ (m + p + 1)) (by omega)
    rw [cox_succ, ih m (by omega) (h1.trans hx), ih (m + 1) (by omega) (by rwa [Nat.add_right_comm m 1 p]), mul_zero,
      mul_zero, add_zero]

/-- `hx`: degree 0 of `cox` is half-open. At either end of a pass the missing neighbour is a basis function that vanishes at x. -/
theorem deBoorUpTo_eq_cox (knots : List Rat) (x : Rat) (left m i : Nat) (hs : knots.Pairwise (· ≤ ·))
    (hlo : knots.getD left 0 ≤ x) (hx : x < knots.getD (left + 1) 0) (hm : m + i = left) (hk : left + i < knots.length)
    (j : Nat) (hj : j ≤ i) :
    (deBoorUpTo knots x left i).getD j 0 = cox knots i (m + j) x := by
  induction i generalizing m j with
  | zero =>
    obtain rfl : j = 0 := Nat.le_zero.mp hj
    subst hm
    rw [cox, if_pos ⟨hlo, hx⟩]; rfl
  | succ p ih =>
    have ih := fun j hj => ih (m + 1) (by omega) (by omega) j hj
    rw [deBoorUpTo, deBoorStep_eq knots x left m p _ hm, getD_range_map _ 0 (Nat.lt_succ_of_le hj), cox_succ,
      ← Nat.add_assoc m j 1]
    congr 1
    · split
      · next h1 => rw [ih _ (Nat.sub_le_of_le_add hj), Nat.add_assoc m 1, Nat.add_sub_cancel' h1]
      · obtain rfl : j = 0 := by omega
        rw [cox_zero_right knots hs x p (m + 0) (by omega) (by rw [show m + 0 + p + 1 = left from hm]; exact hlo),
          mul_zero]
    · split
      · next h1 => rw [ih _ h1, Nat.add_right_comm m 1]
      · obtain rfl : j = p + 1 := by omega
        rw [cox_zero_left knots hs x p _ (by omega) (by rw [show m + (p + 1) + 1 = left + 1 by omega]; exact hx),
          mul_zero]

/-! ### `_de_boor`: partition of unity on a closed, non-degenerate knot interval (C12) -/

/-- closed on the right: `_find_interval` puts `x = x.max()` in the last interval -/
structure InInterval (knots : List Rat) (x : Rat) (left : Nat) : Prop where
  sorted : knots.Pairwise (· ≤ ·)
  inb : left + 1 < knots.length
  lo : knots.getD left 0 ≤ x
  hi : x ≤ knots.getD (left + 1) 0
  nondeg : knots.getD left 0 < knots.getD (left + 1) 0

/-- `left_knot ≤ x ≤ right_knot`, `left_knot < right_knot` in inner iteration `j` of pass `i + 1` (`left = m + i + 1`) -/
theorem InInterval.pass {knots : List Rat} {x : Rat} {left m i j : Nat} (h : InInterval knots x left)
    (hm : m + i + 1 = left) (hk : left + i + 1 < knots.length) (h1 : 1 ≤ j) (hj : j ≤ i + 1) :
    knots.getD (m + j) 0 ≤ x ∧ x ≤ knots.getD (m + j + i + 1) 0 ∧ knots.getD (m + j) 0 < knots.getD (m + j + i + 1) 0 :=
  have h1 := knots_mono knots h.sorted (show m + j ≤ left by omega) (by omega)
  have h2 := knots_mono knots h.sorted (show left + 1 ≤ m + j + i + 1 by omega) (by omega)
  ⟨h1.trans h.lo, h.hi.trans h2, lt_of_le_of_lt h1 (lt_of_lt_of_le h.nondeg h2)⟩

theorem barycentric {a b x : Rat} (h : a ≤ x ∧ x ≤ b ∧ a < b) :
    0 ≤ (x - a) / (b - a) ∧ 0 ≤ (b - x) / (b - a) ∧ (x - a) / (b - a) + (b - x) / (b - a) = 1 :=
  have hd := sub_pos.2 h.2.2
  ⟨div_nonneg (sub_nonneg.2 h.1) hd.le, div_nonneg (sub_nonneg.2 h.2.1) hd.le,
    by rw [← add_div, sub_add_sub_cancel', div_self hd.ne']⟩

/-! Sums over `List.range` as a function of the upper bound, for the re-indexing `sumTo_stagger` in `deBoorUpTo_inv`. -/
def sumTo (g : Nat → Rat) : Nat → Rat
  | 0 => 0
  | n+1 => sumTo g n + g n

theorem sum_map_range (g : Nat → Rat) (n : Nat) : ((List.range n).map g).sum = sumTo g n := by
  induction n with
  | zero => rfl
  | succ n ih => simp [List.range_succ, List.sum_append, ih, sumTo]

theorem sumTo_congr (a b : Nat → Rat) (n : Nat) (h : ∀ j, j < n → a j = b j) : sumTo a n = sumTo b n := by
  induction n with
  | zero => rfl
  | succ n ih => simp only [sumTo]; rw [ih (fun j hj => h j (by omega)), h n (by omega)]

theorem sumTo_stagger (a b : Nat → Rat) (n : Nat) :
    sumTo (fun j => a j + b j) (n + 1) = a 0 + sumTo (fun j => a (j + 1) + b j) n + b n := by
  induction n with
  | zero => simp [sumTo]
  | succ n ih => rw [sumTo, ih, sumTo]; ring

theorem sum_eq_sumTo (l : List Rat) : l.sum = sumTo (fun j => l.getD j 0) l.length := by
  rw [← sum_map_range, map_getD_range]

/-- `old[j]` enters entries `j + 1` and `j` with the two weights of `barycentric`, at the knots of `InInterval.pass` for `j + 1` -/
theorem deBoorUpTo_inv (knots : List Rat) (x : Rat) (left i : Nat) (h : InInterval knots x left)
    (hil : i ≤ left) (hk : left + i < knots.length) :
    (∀ j, 0 ≤ (deBoorUpTo knots x left i).getD j 0) ∧ (deBoorUpTo knots x left i).sum = 1 := by
  induction i with
  | zero => exact ⟨fun j => by cases j <;> simp [deBoorUpTo], by simp [deBoorUpTo]⟩
  | succ i ih =>
    obtain ⟨ih0, ih1⟩ := ih (by omega) (by omega)
    obtain ⟨m, hm⟩ : ∃ m, m + i + 1 = left := ⟨left - (i + 1), by omega⟩
    have hlen := deBoorUpTo_length knots x left i
    rw [deBoorUpTo, deBoorStep_eq knots x left m i _ hm]
    generalize deBoorUpTo knots x left i = old at ih0 ih1 hlen ⊢
    constructor
    · intro j
      rw [getD_range_map_if]
      split
      · refine add_nonneg ?_ ?_
        · split
          · next h1 => exact mul_nonneg (barycentric (h.pass hm hk h1 (Nat.le_of_lt_succ ‹j < i + 2›))).1 (ih0 _)
          · exact le_rfl
        · split
          · next h1 => exact mul_nonneg (barycentric (h.pass hm hk (Nat.le_add_left 1 j) (Nat.succ_le_succ h1))).2.1 (ih0 _)
          · exact le_rfl
      · exact le_rfl
    · rw [sum_map_range, sumTo_stagger, if_neg (Nat.not_succ_le_zero 0), if_neg (Nat.not_succ_le_self i), zero_add,
        add_zero, ← ih1, sum_eq_sumTo old, hlen]
      refine sumTo_congr _ _ _ fun j hj => ?_
      rw [if_pos (Nat.le_add_left 1 j), if_pos (Nat.le_of_lt_succ hj), Nat.add_sub_cancel, ← add_mul,
        (barycentric (h.pass hm hk (Nat.le_add_left 1 j) hj)).2.2, one_mul]

theorem deBoor_nonneg (knots : List Rat) (x : Rat) (deg left : Nat) (h : InInterval knots x left)
    (hd : deg ≤ left) (hk : left + deg < knots.length) :
    ∀ v ∈ deBoor knots x deg left, 0 ≤ v := by
  intro v hv
  obtain ⟨n, hn, rfl⟩ := List.getElem_of_mem hv
  rw [← getD_of_lt 0 hn]
  exact (deBoorUpTo_inv knots x left deg h hd hk).1 n
theorem deBoor_sum_one (knots : List Rat) (x : Rat) (deg left : Nat) (h : InInterval knots x left)
    (hd : deg ≤ left) (hk : left + deg < knots.length) :
    (deBoor knots x deg left).sum = 1 := (deBoorUpTo_inv knots x left deg h hd hk).2

/-! ### `_spline_knots`, `__make_design_matrix`: lengths and row shape -/

theorem splineKnots_length (a b : Rat) (nk deg : Nat) : (splineKnots a b nk deg).length = nk + 2 * deg := by
  simp only [splineKnots, List.length_map, List.length_range]

def RowsWf (deg nb : Nat) (rows : List Row) : Prop :=
  ∀ r ∈ rows, r.vals.length = deg + 1 ∧ deg ≤ r.left ∧ r.left < nb

theorem designRows_fold (knots : List Rat) (deg nb : Nat) (xs : List Rat) (h : deg < nb)
    (acc : Nat × List Row) (hacc : RowsWf deg nb acc.2) :
    RowsWf deg nb (xs.foldl (fun (acc : Nat × List Row) x =>
      let l := findInterval knots deg x acc.1 nb
      (l, acc.2 ++ [⟨l, deBoor knots x deg l⟩])) acc).2 ∧
    (xs.foldl (fun (acc : Nat × List Row) x =>
      let l := findInterval knots deg x acc.1 nb
      (l, acc.2 ++ [⟨l, deBoor knots x deg l⟩])) acc).2.length = acc.2.length + xs.length := by
  induction xs generalizing acc with
  | nil => exact ⟨hacc, rfl⟩
  | cons x xs ih =>
    have hl := findIntervalT_inb (fun i => decide (x < knots.getD i 0)) (fun i => decide (x ≥ knots.getD i 0))
      deg acc.1 nb h
    obtain ⟨h1, h2⟩ := ih (_, acc.2 ++ [⟨_, deBoor knots x deg (findInterval knots deg x acc.1 nb)⟩])
      (List.forall_mem_append.mpr ⟨hacc, List.forall_mem_singleton.mpr ⟨deBoor_length .., hl.1, hl.2.1⟩⟩)
    exact ⟨h1, h2.trans (by rw [List.length_append, List.length_singleton, List.length_cons, Nat.add_assoc,
      Nat.add_comm 1])⟩

theorem designRows_wf (knots : List Rat) (deg : Nat) (xs : List Rat) (h : deg < knots.length - (deg + 1)) :
    RowsWf deg (knots.length - (deg + 1)) (designRows knots deg xs) ∧ (designRows knots deg xs).length = xs.length := by
  have := designRows_fold knots deg (knots.length - (deg + 1)) xs h (deg, []) (fun _ hr => nomatch hr)
  exact ⟨this.1, this.2.trans (Nat.zero_add _)⟩

/-! ### `_numba_btb_bty` -/

theorem sum_range_single (g : Nat → Rat) (n k0 : Nat) (h : ∀ k, k < n → k ≠ k0 → g k = 0) :
    ((List.range n).map g).sum = if k0 < n then g k0 else 0 :=
  (sum_single _ List.nodup_range g k0 fun k hk => h k (List.mem_range.1 hk)).trans (if_congr List.mem_range rfl rfl)

/-- the `rhs` loop of `accRow` -/
theorem rhsLoop_getD (base : Nat) (g : Nat → Rat) (n : Nat) (rhs : List Rat) (c : Nat) (hc : c < rhs.length) :
    ((List.range n).foldl (fun rhs j => rhs.modify (base + j) (· + g j)) rhs).getD c 0 =
      rhs.getD c 0 + (if base ≤ c ∧ c - base < n then g (c - base) else 0) := by
  refine (foldl_adds (fun s : List Rat => s.length = rhs.length) (fun s => s.getD c 0) _
    (fun j => if base + j = c then g j else 0) (List.range n) (fun s j _ hs => ⟨by rw [List.length_modify, hs], ?_⟩)
    rhs rfl).2.trans (congrArg _ ?_)
  · rw [getD_modify, hs]
    by_cases hbc : base + j = c
    · rw [if_pos ⟨hbc, hc⟩, if_pos hbc]
    · rw [if_neg fun h => hbc h.1, if_neg hbc, add_zero]
  · rw [sum_range_single _ n (c - base) fun k _ hne => if_neg (by omega), ← ite_and]
    exact if_congr (by omega) rfl rfl

/-- the two `ab` loops of `accRow` -/
theorem abLoops_ent {m nb : Nat} (base : Nat) (V : Nat → Nat → Rat) (n : Nat) {ab : List (List Rat)}
    (h : TblShape ab m nb) (r c : Nat) (hr : r < m) (hc : c < nb) :
    ent ((List.range n).foldl (fun ab j => (List.range (j + 1)).foldl (fun ab k =>
      ab.modify (j - k) fun row => row.modify (base + k) (· + V j k)) ab) ab) r c =
      ent ab r c + (if base ≤ c ∧ c - base + r < n then V (c - base + r) (c - base) else 0) := by
  have inner := fun j => foldl_adds (TblShape · m nb) (ent · r c)
    (fun ab k => ab.modify (j - k) fun row => row.modify (base + k) (· + V j k))
    (fun k => if j - k = r ∧ base + k = c then V j k else 0) (List.range (j + 1))
    fun s k _ hs => ⟨shape_addAt hs _ _ _, ent_addAt hs _ _ _ r c hr hc⟩
  refine (foldl_adds (TblShape · m nb) (ent · r c) _ _ (List.range n) (fun s j _ hs => inner j s hs) ab h).2.trans
    (congrArg _ ?_)
  -- in pass `j` only `k = c - base` can hit the cell, and it does so in pass `j = c - base + r` only
  have hk := fun j => sum_range_single (fun k => if j - k = r ∧ base + k = c then V j k else 0) (j + 1) (c - base)
    fun k _ hne => if_neg (by omega)
  rw [sum_range_single _ n (c - base + r) fun j _ hne => by rw [hk, ← ite_and]; exact if_neg (by omega), hk, ← ite_and,
    ← ite_and]
  exact if_congr (by omega) rfl rfl

theorem accRow_fst (deg : Nat) (ab : List (List Rat)) (rhs : List Rat) (row : Row) (y w : Rat) :
    (accRow deg ab rhs row y w).1 = (List.range (deg + 1)).foldl (fun ab j => (List.range (j + 1)).foldl (fun ab k =>
      ab.modify (j - k) fun r => r.modify (row.left - deg + k) (· + row.vals.getD j 0 * row.vals.getD k 0 * w)) ab) ab := rfl

theorem accRow_snd (deg : Nat) (ab : List (List Rat)) (rhs : List Rat) (row : Row) (y w : Rat) :
    (accRow deg ab rhs row y w).2 = (List.range (deg + 1)).foldl (fun rhs j =>
      rhs.modify (row.left - deg + j) (· + row.vals.getD j 0 * y * w)) rhs := rfl

theorem accRow_shape {deg nb : Nat} {ab : List (List Rat)} (rhs : List Rat) (row : Row) (y w : Rat)
    (h : TblShape ab (deg + 1) nb) : TblShape (accRow deg ab rhs row y w).1 (deg + 1) nb :=
  foldl_keeps (TblShape · (deg + 1) nb) _ _
    (fun s _ hs => foldl_keeps (TblShape · (deg + 1) nb) _ _ (fun _ _ hs => shape_addAt hs _ _ _) s hs) ab h

theorem accRow_rhs_length {deg : Nat} (ab : List (List Rat)) (rhs : List Rat) (row : Row) (y w : Rat) :
    (accRow deg ab rhs row y w).2.length = rhs.length :=
  foldl_keeps (fun s : List Rat => s.length = rhs.length) _ _ (fun s j hs => by rw [List.length_modify, hs]) rhs rfl

theorem rowAt_eq (row : Row) {deg base : Nat} (hb : base + deg = row.left) (c : Nat) :
    row.at deg c = if base ≤ c ∧ c - base < deg + 1 then row.vals.getD (c - base) 0 else 0 := by
  rw [Row.at, ← hb, Nat.add_sub_add_right]
  exact if_congr (by omega) rfl rfl

theorem accRow_ent {deg nb : Nat} {ab : List (List Rat)} (rhs : List Rat) (row : Row) (y w : Rat)
    (h : TblShape ab (deg + 1) nb) (hrow : deg ≤ row.left)
    (r c : Nat) (hr : r ≤ deg) (hc : c + r < nb) :
    ent (accRow deg ab rhs row y w).1 r c = ent ab r c + w * row.at deg (c + r) * row.at deg c := by
  obtain ⟨base, hb⟩ : ∃ base, base + deg = row.left := ⟨row.left - deg, Nat.sub_add_cancel hrow⟩
  rw [accRow_fst, abLoops_ent _ _ _ h r c (by omega) (by omega), rowAt_eq row hb, rowAt_eq row hb,
    show row.left - deg = base by omega, mul_assoc w, ite_zero_mul_ite_zero, mul_ite, mul_zero]
  congr 1
  -- the cell is hit iff both factors lie in the support of the row
  refine if_ctx_congr (by omega) (fun h1 => ?_) fun _ => rfl
  rw [show c + r - base = c - base + r by omega]
  ring

theorem accRow_rhs {deg : Nat} (ab : List (List Rat)) (rhs : List Rat) (row : Row) (y w : Rat)
    (hrow : deg ≤ row.left) (c : Nat) (hc : c < rhs.length) :
    (accRow deg ab rhs row y w).2.getD c 0 = rhs.getD c 0 + w * y * row.at deg c := by
  rw [accRow_snd, rhsLoop_getD _ _ _ _ c hc, rowAt_eq row (Nat.sub_add_cancel hrow)]
  congr 1
  split
  · ring
  · rw [mul_zero]

theorem btbBty_shape (deg nb : Nat) (rows : List Row) (ys ws : List Rat) :
    TblShape (btbBty deg nb rows ys ws).1 (deg + 1) nb :=
  foldl_keeps (fun s : List (List Rat) × List Rat => TblShape s.1 (deg + 1) nb) _ _
    (fun _ _ hs => accRow_shape _ _ _ _ hs) _ (shape_zero_rows _ _)

theorem btbBty_rhs_length (deg nb : Nat) (rows : List Row) (ys ws : List Rat) :
    (btbBty deg nb rows ys ws).2.length = nb :=
  foldl_keeps (fun s : List (List Rat) × List Rat => s.2.length = nb) _ _
    (fun _ _ hs => (accRow_rhs_length _ _ _ _ _).trans hs) _ List.length_replicate

theorem btb_eq (deg nb : Nat) (rows : List Row) (ys ws : List Rat) (h : RowsWf deg nb rows)
    (hy : ys.length = rows.length) (hw : ws.length = rows.length) (r c : Nat) (hr : r ≤ deg) (hc : c + r < nb) :
    ((btbBty deg nb rows ys ws).1.getD r []).getD c 0 = btbSpec deg rows ws r c := by
  -- `btbSpec` zips the rows with `ws` only: the second component of `ys.zip ws`, the lengths being equal
  rw [btbSpec]
  conv_rhs => rw [← List.map_snd_zip (l₁ := ys) (l₂ := ws) (by omega), List.zip_map_right, List.map_map]
  refine (foldl_adds (fun s : List (List Rat) × List Rat => TblShape s.1 (deg + 1) nb) (fun s => ent s.1 r c) _
    (fun p : Row × Rat × Rat => p.2.2 * p.1.at deg (c + r) * p.1.at deg c) _ (fun s p hp hs => ⟨accRow_shape _ _ _ _ hs,
      accRow_ent _ _ _ _ hs (h _ (List.of_mem_zip hp).1).2.1 r c hr hc⟩) _ (shape_zero_rows _ _)).2.trans ?_
  rw [ent_zero_rows, zero_add]
  rfl

theorem bty_eq (deg nb : Nat) (rows : List Row) (ys ws : List Rat) (h : RowsWf deg nb rows)
    (hy : ys.length = rows.length) (hw : ws.length = rows.length) (c : Nat) (hc : c < nb) :
    (btbBty deg nb rows ys ws).2.getD c 0 = btySpec deg rows ys ws c := by
  refine (foldl_adds (fun s : List (List Rat) × List Rat => s.2.length = nb) (fun s => s.2.getD c 0) _
    (fun p : Row × Rat × Rat => p.2.2 * p.2.1 * p.1.at deg c) _ (fun s p hp hs => ⟨(accRow_rhs_length _ _ _ _ _).trans hs,
      accRow_rhs _ _ _ _ _ (h _ (List.of_mem_zip hp).1).2.1 c (hs ▸ hc)⟩) _ List.length_replicate).2.trans ?_
  rw [getD_replicate, ite_self, zero_add]
  rfl

end PbVerif.Lemmas
