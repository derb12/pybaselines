import Mathlib.Algebra.Order.Field.Rat
import PbVerif.Lemmas.ListAux
import PbVerif.Model.Collab
/-! The `collab_pls` planner (C17).  The dictionary of the final fits is the user's with a list of assignments applied
(`writes`); what is said about single keys, about the fits a value refers to and about the two averaging modes all
comes from general facts about applying a list of assignments (`kwSetAll`). -/
namespace PbVerif.Lemmas
open PbVerif.Collab

theorem kwGet_kwSet (d : Kw) (k : String) (v : Val) (k' : String) :
    kwGet (kwSet d k v) k' = if k = k' then some v else kwGet d k' := by
  induction d with
  | nil => rfl
  | cons p t ih =>
    by_cases h : p.1 = k
    · subst h
      by_cases h' : p.1 = k' <;> simp only [kwSet, kwGet, h', if_true, if_false]
    · by_cases h' : p.1 = k'
      · subst h'
        simp only [kwSet, kwGet, h, Ne.symm h, if_true, if_false]
      · simp only [kwSet, kwGet, h, h', ih, if_false]

theorem kwGet_mem {d : Kw} {key : String} {v : Val} (h : kwGet d key = some v) : (key, v) ∈ d := by
  induction d with
  | nil => cases h
  | cons p t ih =>
    rw [kwGet] at h
    split at h
    · next hk => cases h; exact hk ▸ List.mem_cons_self
    · exact List.mem_cons_of_mem _ (ih h)

theorem mem_kwSet (d : Kw) (k : String) (v : Val) (p : String × Val) (hp : p ∈ kwSet d k v) : p ∈ d ∨ p = (k, v) := by
  induction d with
  | nil => exact .inr (List.mem_singleton.mp hp)
  | cons q t ih =>
    by_cases h : q.1 = k
    · rw [kwSet, if_pos h, List.mem_cons] at hp
      exact hp.symm.imp (List.mem_cons_of_mem _) (h ▸ ·)
    · rw [kwSet, if_neg h, List.mem_cons] at hp
      rcases hp with rfl | hp
      · exact .inl List.mem_cons_self
      · exact (ih hp).imp_left (List.mem_cons_of_mem _)

/-- `d[key] = value` for each pair of `ws`, in order -/
def kwSetAll (ws : Kw) (d : Kw) : Kw := ws.foldl (fun d p => kwSet d p.1 p.2) d

theorem kwSetAll_cons (w : String × Val) (ws d : Kw) : kwSetAll (w :: ws) d = kwSetAll ws (kwSet d w.1 w.2) := rfl

theorem kwSetAll_append (ws ws' d : Kw) : kwSetAll (ws ++ ws') d = kwSetAll ws' (kwSetAll ws d) := List.foldl_append

theorem kwSetAll_ite (c : Bool) (key : String) (v : Val) (d : Kw) :
    kwSetAll (if c then [(key, v)] else []) d = if c then kwSet d key v else d := by
  cases c <;> rfl

theorem kwGet_kwSetAll_of_not_mem (ws d : Kw) (key : String) (h : key ∉ ws.map (·.1)) :
    kwGet (kwSetAll ws d) key = kwGet d key := by
  induction ws generalizing d with
  | nil => rfl
  | cons w t ih =>
    rw [List.map_cons, List.mem_cons, not_or] at h
    rw [kwSetAll_cons, ih _ h.2, kwGet_kwSet, if_neg (Ne.symm h.1)]

theorem kwGet_kwSetAll_of_mem (ws d : Kw) (key : String) (v : Val) (hn : (ws.map (·.1)).Nodup) (h : (key, v) ∈ ws) :
    kwGet (kwSetAll ws d) key = some v := by
  induction ws generalizing d with
  | nil => exact absurd h List.not_mem_nil
  | cons w t ih =>
    rw [List.map_cons, List.nodup_cons] at hn
    rw [kwSetAll_cons]
    rcases List.mem_cons.mp h with rfl | h
    · rw [kwGet_kwSetAll_of_not_mem _ _ _ hn.1, kwGet_kwSet, if_pos rfl]
    · exact ih _ hn.2 h

theorem forall_kwSetAll (P : Val → Prop) (ws d : Kw) (hd : ∀ p ∈ d, P p.2) (hw : ∀ p ∈ ws, P p.2) :
    ∀ p ∈ kwSetAll ws d, P p.2 := by
  induction ws generalizing d with
  | nil => exact hd
  | cons w t ih =>
    refine ih _ (fun p hp => ?_) (fun p hp => hw p (List.mem_cons_of_mem _ hp))
    rcases mem_kwSet d _ _ p hp with h | rfl
    · exact hd p h
    · exact hw w List.mem_cons_self

/-- the assignments `method_kws[key] = value` that `collab_pls` makes before step 2, in their order -/
def writes (fam : Family) (k : Nat) (avg : Bool) : Kw :=
  [("weights", avgW k avg)] ++ (if fam.calcAlpha then [("alpha", avgA k avg)] else []) ++
  (if fam.setTol then [("tol", .inf)] else []) ++ (if fam.setTol2 then [("tol_2", .inf)] else []) ++
  (if fam.asMask then [("weights_as_mask", .true_)] else [])

theorem mem_writes (fam : Family) (k : Nat) (avg : Bool) (p : String × Val) :
    p ∈ writes fam k avg ↔ p = ("weights", avgW k avg) ∨ (fam.calcAlpha = true ∧ p = ("alpha", avgA k avg)) ∨
      (fam.setTol = true ∧ p = ("tol", .inf)) ∨ (fam.setTol2 = true ∧ p = ("tol_2", .inf)) ∨
      (fam.asMask = true ∧ p = ("weights_as_mask", .true_)) := by
  simp only [writes, List.mem_append, List.mem_singleton, List.mem_ite_nil_right, or_assoc]

theorem finalKw_eq (fam : Family) (k : Nat) (avg : Bool) (user : Kw) :
    finalKw fam k avg user = kwSetAll (writes fam k avg) user := by
  simp only [writes, kwSetAll_append, kwSetAll_ite]
  rfl

theorem overridden_eq (fam : Family) (k : Nat) (avg : Bool) : overridden fam = (writes fam k avg).map (·.1) := by
  simp only [writes, overridden, List.map_append, apply_ite (List.map _), List.map_cons, List.map_nil]

/-- the keys written are some of five distinct ones -/
theorem overridden_nodup (fam : Family) : (overridden fam).Nodup := by
  have h : ∀ (c : Bool) (x : String), List.Sublist (if c then [x] else []) [x] := fun c x => by cases c <;> simp
  exact List.Nodup.sublist (((((List.Sublist.refl _).append (h _ _)).append (h _ _)).append (h _ _)).append (h _ _))
    (by decide : ["weights", "alpha", "tol", "tol_2", "weights_as_mask"].Nodup)

theorem finalKw_other (fam : Family) (k : Nat) (avg : Bool) (user : Kw) (key : String) (h : key ∉ overridden fam) :
    kwGet (finalKw fam k avg user) key = kwGet user key := by
  rw [finalKw_eq, kwGet_kwSetAll_of_not_mem _ _ _ (overridden_eq fam k avg ▸ h)]

theorem finalKw_get (fam : Family) (k : Nat) (avg : Bool) (user : Kw) (key : String) (v : Val) (h : (key, v) ∈ writes fam k avg) :
    kwGet (finalKw fam k avg user) key = some v := by
  rw [finalKw_eq, kwGet_kwSetAll_of_mem _ _ _ _ (overridden_eq fam k avg ▸ overridden_nodup fam) h]

theorem finalKw_weights (fam : Family) (k : Nat) (avg : Bool) (user : Kw) :
    kwGet (finalKw fam k avg user) "weights" = some (avgW k avg) :=
  finalKw_get fam k avg user _ _ ((mem_writes ..).mpr (.inl rfl))

theorem finalKw_alpha (fam : Family) (k : Nat) (avg : Bool) (user : Kw) (h : fam.calcAlpha = true) :
    kwGet (finalKw fam k avg user) "alpha" = some (avgA k avg) :=
  finalKw_get fam k avg user _ _ ((mem_writes ..).mpr (.inr (.inl ⟨h, rfl⟩)))

theorem finalKw_tol (fam : Family) (k : Nat) (avg : Bool) (user : Kw) (h : fam.setTol = true) :
    kwGet (finalKw fam k avg user) "tol" = some .inf :=
  finalKw_get fam k avg user _ _ ((mem_writes ..).mpr (.inr (.inr (.inl ⟨h, rfl⟩))))

theorem finalKw_tol2 (fam : Family) (k : Nat) (avg : Bool) (user : Kw) (h : fam.setTol2 = true) :
    kwGet (finalKw fam k avg user) "tol_2" = some .inf :=
  finalKw_get fam k avg user _ _ ((mem_writes ..).mpr (.inr (.inr (.inr (.inl ⟨h, rfl⟩)))))

theorem finalKw_mask (fam : Family) (k : Nat) (avg : Bool) (user : Kw) (h : fam.asMask = true) :
    kwGet (finalKw fam k avg user) "weights_as_mask" = some .true_ :=
  finalKw_get fam k avg user _ _ ((mem_writes ..).mpr (.inr (.inr (.inr (.inr ⟨h, rfl⟩)))))

theorem firstPass_length (k : Nat) (avg : Bool) (user : Kw) :
    (firstPass k avg user).length = if avg then 1 else k := by
  cases avg <;> simp [firstPass]

theorem firstPass_kw (k : Nat) (avg : Bool) (user : Kw) (c : Call) (hc : c ∈ firstPass k avg user) : c.kw = user := by
  cases avg
  · obtain ⟨i, _, rfl⟩ := List.mem_map.mp hc
    rfl
  · rw [List.mem_singleton.mp hc]

/-- `if avg then 1 else k` is `firstPass.length` -/
theorem collabPlan_result_call (twoD : Bool) (method : String) (k : Nat) (avg : Bool) (user : Kw) (i : Nat) (hi : i < k) :
    (collabPlan twoD method k avg user).results.getD i 0 = (if avg then 1 else k) + i ∧
    (collabPlan twoD method k avg user).calls.getD ((if avg then 1 else k) + i) ⟨.mean, []⟩ =
      ⟨.entry i, finalKw (family twoD method) k avg user⟩ := by
  have hl := firstPass_length k avg user
  constructor
  · rw [collabPlan, getD_range_map _ 0 hi, hl, Nat.add_comm]
  · rw [collabPlan, getD_append, hl, if_neg (Nat.not_lt.mpr (Nat.le_add_right _ _)), Nat.add_sub_cancel_left,
      getD_range_map _ _ hi]

/-! ### running the plan with an arbitrary wrapped method -/
/-- the fits a value is computed from -/
def refs : Val → List Nat
  | .fitWeights c => [c]
  | .fitAlpha c => [c]
  | .meanWeights cs => cs
  | .meanAlpha cs => cs
  | _ => []

/-- the user's dictionary holds the user's own values only -/
def UserKw (user : Kw) : Prop := ∀ p ∈ user, ∃ t, p.2 = .user t

theorem fitAt_append (h e : List Rec) (c : Nat) (hc : c < h.length) : fitAt (h ++ e) c = fitAt h c := by
  rw [fitAt, fitAt, getD_append, if_pos hc]

theorem resolve_append (h e : List Rec) (v : Val) (hv : ∀ c ∈ refs v, c < h.length) : resolve (h ++ e) v = resolve h v := by
  have hmap : ∀ (g : Fit → List Rat) (cs : List Nat), (∀ c ∈ cs, c < h.length) →
      cs.map (fun c => g (fitAt (h ++ e) c)) = cs.map fun c => g (fitAt h c) :=
    fun g cs hcs => List.map_congr_left fun c hc => by rw [fitAt_append h e c (hcs c hc)]
  cases v with
  | user t => rfl
  | inf => rfl
  | true_ => rfl
  | fitWeights c => rw [resolve, resolve, fitAt_append h e c (hv c List.mem_cons_self)]
  | fitAlpha c => rw [resolve, resolve, fitAt_append h e c (hv c List.mem_cons_self)]
  | meanWeights cs => rw [resolve, resolve, hmap (·.weights) cs hv]
  | meanAlpha cs => rw [resolve, resolve, hmap (·.alpha) cs hv]

theorem resolveKw_append (h e : List Rec) (kw : Kw) (hk : ∀ p ∈ kw, ∀ c ∈ refs p.2, c < h.length) :
    resolveKw (h ++ e) kw = resolveKw h kw :=
  List.map_congr_left fun p hp => by rw [resolve_append h e p.2 (hk p hp)]

/-- a block of fits of `dataset[0..k)` with one dictionary -/
theorem stepCall_block (f : Method) (ds : List (List Rat)) (h : List Rec) (kw : Kw)
    (hk : ∀ p ∈ kw, ∀ c ∈ refs p.2, c < h.length) (k : Nat) :
    ((List.range k).map fun i => (⟨.entry i, kw⟩ : Call)).foldl (stepCall f ds) h =
      h ++ (List.range k).map fun i =>
        (⟨ds.getD i [], resolveKw h kw, f (h.length + i) (ds.getD i []) (resolveKw h kw)⟩ : Rec) := by
  induction k with
  | zero => exact (List.append_nil h).symm
  | succ k ih =>
    rw [List.range_succ, List.map_append, List.foldl_append, ih, List.map_append, ← List.append_assoc]
    show stepCall f ds _ _ = _
    rw [stepCall, resolveKw_append h _ kw hk, List.length_append, List.length_map, List.length_range]
    rfl

theorem userKw_refs (user : Kw) (hu : UserKw user) (n : Nat) : ∀ p ∈ user, ∀ c ∈ refs p.2, c < n := by
  intro p hp c hc
  obtain ⟨t, ht⟩ := hu p hp
  rw [ht] at hc
  exact absurd hc List.not_mem_nil

theorem avgW_refs (k : Nat) (avg : Bool) : ∀ c ∈ refs (avgW k avg), c < (if avg then 1 else k) := by
  cases avg <;> simp [avgW, refs]
theorem avgA_refs (k : Nat) (avg : Bool) : ∀ c ∈ refs (avgA k avg), c < (if avg then 1 else k) := by
  cases avg <;> simp [avgA, refs]

theorem finalKw_refs (fam : Family) (k : Nat) (avg : Bool) (user : Kw) (hu : UserKw user) :
    ∀ p ∈ finalKw fam k avg user, ∀ c ∈ refs p.2, c < (if avg then 1 else k) := by
  rw [finalKw_eq]
  refine forall_kwSetAll (fun v => ∀ c ∈ refs v, c < (if avg then 1 else k)) _ _ (userKw_refs user hu _) fun p hp => ?_
  rcases (mem_writes ..).mp hp with rfl | ⟨_, rfl⟩ | ⟨_, rfl⟩ | ⟨_, rfl⟩ | ⟨_, rfl⟩
  · exact avgW_refs k avg
  · exact avgA_refs k avg
  all_goals exact fun c hc => absurd hc List.not_mem_nil

/-- the records of step 1 -/
def firstRecs (f : Method) (avg : Bool) (user : Kw) (ds : List (List Rat)) : List Rec :=
  if avg then [⟨meanRows ds, resolveKw [] user, f 0 (meanRows ds) (resolveKw [] user)⟩]
  else (List.range ds.length).map fun i => ⟨ds.getD i [], resolveKw [] user, f i (ds.getD i []) (resolveKw [] user)⟩

theorem firstRecs_length (f : Method) (avg : Bool) (user : Kw) (ds : List (List Rat)) :
    (firstRecs f avg user ds).length = if avg then 1 else ds.length := by
  cases avg <;> simp [firstRecs]

theorem run_firstPass (f : Method) (avg : Bool) (user : Kw) (ds : List (List Rat)) (hu : UserKw user) :
    (firstPass ds.length avg user).foldl (stepCall f ds) [] = firstRecs f avg user ds := by
  cases avg
  · rw [firstPass, if_neg Bool.false_ne_true, stepCall_block f ds [] user (userKw_refs user hu _) ds.length, firstRecs,
      if_neg Bool.false_ne_true, List.nil_append]
    simp only [List.length_nil, Nat.zero_add]
  · rfl

/-- the records of step 2: the final dictionary is resolved against the fits of step 1 -/
def finalRecs (f : Method) (twoD : Bool) (method : String) (avg : Bool) (user : Kw) (ds : List (List Rat)) : List Rec :=
  (List.range ds.length).map fun i =>
    ⟨ds.getD i [], resolveKw (firstRecs f avg user ds) (finalKw (family twoD method) ds.length avg user),
      f ((if avg then 1 else ds.length) + i) (ds.getD i [])
        (resolveKw (firstRecs f avg user ds) (finalKw (family twoD method) ds.length avg user))⟩

/-- `collab_pls` in closed form: the reported fits are those of step 2, the reported weights / alpha come from the
fits of step 1 -/
theorem runCollab_closed (f : Method) (twoD : Bool) (method : String) (avg : Bool) (user : Kw) (ds : List (List Rat))
    (hu : UserKw user) :
    runCollab f twoD method avg user ds =
      { trace := firstRecs f avg user ds ++ finalRecs f twoD method avg user ds
        baselines := (finalRecs f twoD method avg user ds).map (·.fit.baseline)
        avgWeights := resolve (firstRecs f avg user ds) (avgW ds.length avg)
        avgAlpha := if (family twoD method).calcAlpha then some (resolve (firstRecs f avg user ds) (avgA ds.length avg))
          else none } := by
  have hl := firstRecs_length f avg user ds
  have htr : runCalls f ds (collabPlan twoD method ds.length avg user).calls =
      firstRecs f avg user ds ++ finalRecs f twoD method avg user ds := by
    rw [runCalls, collabPlan, List.foldl_append, run_firstPass f avg user ds hu,
      stepCall_block f ds _ _ (by rw [hl]; exact finalKw_refs _ _ _ _ hu) ds.length, hl]
    rfl
  -- the reported values refer to fits of step 1 only
  have hres : ∀ v, (∀ c ∈ refs v, c < (if avg then 1 else ds.length)) →
      resolve (firstRecs f avg user ds ++ finalRecs f twoD method avg user ds) v = resolve (firstRecs f avg user ds) v :=
    fun v hv => resolve_append _ _ v (hl ▸ hv)
  rw [runCollab, htr, collabPlan]
  simp only [apply_ite (Option.map _), Option.map_some, Option.map_none, hres _ (avgW_refs _ _), hres _ (avgA_refs _ _),
    firstPass_length]
  congr 1
  -- reported fit `i` is call number `firstPass.length + i`, entry `i` of step 2
  rw [finalRecs, List.map_map, List.map_map]
  refine List.map_congr_left fun i hi => ?_
  rw [Function.comp_apply, Function.comp_apply, Nat.add_comm, fitAt, getD_append, hl, if_neg (Nat.not_lt.mpr (Nat.le_add_right _ _)),
    Nat.add_sub_cancel_left, getD_range_map _ _ (List.mem_range.mp hi)]

/-- the model's `kwGet` at the value type `Arg` -/
def getArg : List (String × Arg) → String → Option Arg
  | [], _ => none
  | (k, w) :: t, key => if k = key then some w else getArg t key

theorem getArg_resolveKw (h : List Rec) (kw : Kw) (key : String) :
    getArg (resolveKw h kw) key = (kwGet kw key).map (resolve h) := by
  induction kw with
  | nil => rfl
  | cons p t ih =>
    show (if p.1 = key then _ else getArg (resolveKw h t) key) = Option.map _ (if p.1 = key then _ else kwGet t key)
    split
    · rfl
    · exact ih

theorem getArg_resolveKw_some (h : List Rec) {kw : Kw} {key : String} {v : Val} (e : kwGet kw key = some v) :
    getArg (resolveKw h kw) key = some (resolve h v) := by
  rw [getArg_resolveKw, e]
  rfl

theorem resolve_user_indep (user : Kw) (hu : UserKw user) (key : String) (h h' : List Rec) :
    (kwGet user key).map (resolve h) = (kwGet user key).map (resolve h') := by
  cases hv : kwGet user key with
  | none => rfl
  | some v =>
    obtain ⟨t, ht⟩ := hu _ (kwGet_mem hv)
    rw [show v = .user t from ht]
    rfl

theorem meanRows_singleton (r : List Rat) : meanRows [r] = r := by
  rw [meanRows, List.headD_cons]
  conv => rhs; rw [← map_getD_range r 0]
  refine List.map_congr_left fun j _ => ?_
  simp

theorem firstRecs_single (f : Method) (user : Kw) (d : List Rat) : firstRecs f true user [d] = firstRecs f false user [d] := by
  rw [firstRecs, firstRecs, if_pos rfl, if_neg Bool.false_ne_true, meanRows_singleton]
  rfl

/-- the model's `kwSet` at the value type `Arg` -/
def argSet : List (String × Arg) → String → Arg → List (String × Arg)
  | [], key, v => [(key, v)]
  | (k, w) :: t, key, v => if k = key then (k, v) :: t else (k, w) :: argSet t key v

theorem resolveKw_kwSet (h : List Rec) (d : Kw) (key : String) (v : Val) :
    resolveKw h (kwSet d key v) = argSet (resolveKw h d) key (resolve h v) := by
  induction d with
  | nil => rfl
  | cons p t ih =>
    show resolveKw h (if p.1 = key then _ else _) = if p.1 = key then _ else _
    split
    · rfl
    · exact congrArg (_ :: ·) ih

theorem resolveKw_kwSetAll (h : List Rec) (ws d : Kw) :
    resolveKw h (kwSetAll ws d) = (resolveKw h ws).foldl (fun d p => argSet d p.1 p.2) (resolveKw h d) := by
  induction ws generalizing d with
  | nil => rfl
  | cons w t ih => rw [kwSetAll_cons, ih, resolveKw_kwSet]; rfl

/-- with one data set the two averaging modes resolve alike: the mean of one row is the row -/
theorem finalKw_single (fam : Family) (user : Kw) (h : List Rec) :
    resolve h (avgW 1 true) = resolve h (avgW 1 false) ∧ resolve h (avgA 1 true) = resolve h (avgA 1 false) ∧
    resolveKw h (finalKw fam 1 true user) = resolveKw h (finalKw fam 1 false user) := by
  have hW : resolve h (avgW 1 true) = resolve h (avgW 1 false) := congrArg Arg.arr (meanRows_singleton _).symm
  have hA : resolve h (avgA 1 true) = resolve h (avgA 1 false) := congrArg Arg.arr (meanRows_singleton _).symm
  refine ⟨hW, hA, ?_⟩
  rw [finalKw_eq, finalKw_eq, resolveKw_kwSetAll, resolveKw_kwSetAll]
  congr 1
  simp only [writes, resolveKw, List.map_append, List.map_cons, List.map_nil, apply_ite (List.map _), hW, hA]

end PbVerif.Lemmas
