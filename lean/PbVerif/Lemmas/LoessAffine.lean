import PbVerif.Lemmas.Loess
import PbVerif.Lemmas.LoessKern
import PbVerif.Lemmas.Affine
/-! C19: `_determine_fits`, `_fill_skips` and the distance kernel of a local fit are invariant under `t ↦ a·t + b`, `a > 0`, with
`delta` scaled by `a`: the selection compares differences of x-values (and `delta`), the chord interpolation and the kernel use
ratios of such differences. The selection depends on the data only through the comparisons it can ask (`determineFits_congr`). -/
namespace PbVerif.Lemmas.LoessAffine
open PbVerif.Loess PbVerif.LoessKern PbVerif.Lemmas PbVerif.Lemmas.Loess PbVerif.Lemmas.LoessKern PbVerif.Lemmas.Affine

/-- two oracles answer alike on every question `_determine_fits` can ask for `n` points; `r < n` as the loop tests
`right < num_x` first -/
structure Agree (n : Nat) (o o' : Oracle) : Prop where
  skip : ∀ i lf, lf < i → i + 1 < n → o.skip i lf = o'.skip i lf
  adv : ∀ i l r, i + 1 < n → l ≤ r → r < n → o.adv i l r = o'.adv i l r
  tail : o.tail = o'.tail

theorem advance_congr (o o' : Oracle) (n i : Nat) (h : ∀ l r, l ≤ r → r < n → o.adv i l r = o'.adv i l r)
    (f l r : Nat) (hlr : l ≤ r) : advance o n i f l r = advance o' n i f l r := by
  induction f generalizing l r with
  | zero => rfl
  | succ f ih =>
    rw [advance, advance, ih _ _ (Nat.succ_le_succ hlr)]
    exact if_congr (and_congr_right fun hr => by rw [h l r hlr hr]) rfl rfl

theorem iter_congr (o o' : Oracle) (n : Nat) (check : Bool) (hag : Agree n o o') (i : Nat) (s : St)
    (hi : i + 2 < n) (hlf : check = true → s.lastFit ≤ i) (hlr : s.left ≤ s.right) :
    iter o n check s (i + 1) = iter o' n check s (i + 1) := by
  have hfit : ∀ s1 : St, s1.left ≤ s1.right → fitSt o n (i + 1) s1 = fitSt o' n (i + 1) s1 := fun s1 h => by
    rw [fitSt, advance_congr o o' n (i + 1) (fun l r => hag.adv (i + 1) l r (by omega)) n _ _ h]; rfl
  rw [iter_eq, iter_eq]
  cases check with
  | false => exact hfit s hlr
  | true =>
    rw [← hag.skip (i + 1) s.lastFit (Nat.lt_succ_of_le (hlf rfl)) (by omega)]
    exact if_congr Iff.rfl rfl (hfit _ hlr)

theorem loopTo_congr (o o' : Oracle) (n tp : Nat) (check : Bool) (hag : Agree n o o') (m : Nat) (hm : m ≤ n - 2) :
    loopTo o n tp check m = loopTo o' n tp check m := by
  induction m with
  | zero => rfl
  | succ k ih =>
    rw [loopTo_succ, loopTo_succ, ← ih (by omega)]
    obtain ⟨L, hr, hk⟩ := loopTo_run o n tp check k (by omega)
    -- the bookkeeping of the loop (`Link`) and the width of the sliding window (`Run.inb`) put its questions in `Agree`'s range
    exact iter_congr o o' n check hag k _ (by omega) (fun h => hk.lf h ▸ hk.le) (Nat.le.intro hr.inb.1.symm)

theorem determineFits_congr (o o' : Oracle) (n tp : Nat) (check : Bool) (hag : Agree n o o') :
    determineFits o n tp check = determineFits o' n tp check := by
  rw [determineFits_eq, determineFits_eq, finalSt, finalSt, loopTo_congr o o' n tp check hag _ (Nat.le_refl _),
    special, special, hag.tail]

theorem realOracle_agree (a b : Rat) (ha : 0 < a) (x : List Rat) (tp : Nat) (delta : Rat) (hn : 1 ≤ x.length)
    (htp : 1 ≤ tp) :
    Agree x.length (realOracle (x.map (aff a b)) tp (a * delta)) (realOracle x tp delta) := by
  have g : ∀ {i}, i < x.length → (x.map (aff a b)).getD i 0 = aff a b (x.getD i 0) := getD_map_aff a b x _
  refine ⟨fun i lf h1 h2 => ?_, fun i l r h1 h2 h3 => ?_, ?_⟩
  · simp only [realOracle]
    rw [decide_eq_decide, g h2, g (h1.trans (Nat.lt_of_succ_lt h2))]
    exact aff_add_lt a b ha _ _ _
  · simp only [realOracle]
    rw [decide_eq_decide, g (Nat.lt_of_succ_lt h1), g (Nat.lt_of_le_of_lt h2 h3), g h3]
    exact aff_sub_lt a b ha _ _ _ _
  · simp only [realOracle, List.length_map]
    rw [decide_eq_decide, g (Nat.sub_lt hn Nat.one_pos), g (Nat.sub_lt hn Nat.two_pos), g (Nat.sub_lt hn htp)]
    exact aff_sub_lt a b ha _ _ _ _

/-- each pass of `_interp_inplace` reads `x` at the indices of its range only, and through a ratio of differences -/
theorem fillSkips_aff (a b : Rat) (ha : a ≠ 0) (x y : List Rat) (skips : List (Nat × Nat))
    (hs : ∀ p ∈ skips, p.2 ≤ x.length) :
    fillSkips (x.map (aff a b)) y skips = fillSkips x y skips := by
  refine foldl_congr_mem _ _ skips
    (fun y p hp => List.map_congr_left fun k _ => ite_congr rfl (fun hc => ?_) fun _ => rfl) y
  have := hs p hp
  rw [getD_map_aff a b x k (by omega), getD_map_aff a b x p.1 (by omega), getD_map_aff a b x (p.2 - 1) (by omega),
    aff_ratio a b ha]

theorem rabs_aff (sqrt : Rat → Rat) (a b : Rat) (ha : 0 < a) (t u : Rat) :
    (ratNum sqrt).abs ((ratNum sqrt).sub (aff a b t) (aff a b u)) = a * (ratNum sqrt).abs ((ratNum sqrt).sub t u) := by
  have hlt : a * (t - u) < 0 ↔ t - u < 0 := by
    have := mul_lt_mul_iff_right₀ ha (b := t - u) (c := 0)
    rwa [mul_zero] at this
  simp only [ratNum, aff_sub, hlt]
  split <;> ring

theorem diffs_aff (sqrt : Rat → Rat) (a b : Rat) (ha : 0 < a) (x : List Rat) (i left right : Nat) (hi : i < x.length) :
    diffs (ratNum sqrt) (x.map (aff a b)) i left right = (diffs (ratNum sqrt) x i left right).map (a * ·) := by
  simp only [diffs, slice_map, List.map_map]
  apply List.map_congr_left
  intro t _
  simp only [Function.comp, ratNum_zero]
  rw [getD_map_aff a b x i hi]
  exact rabs_aff sqrt a b ha t _

theorem headD_map_mul (a : Rat) (l : List Rat) : (l.map (a * ·)).headD 0 = a * l.headD 0 := by
  rw [headD_eq_getD, headD_eq_getD, getD_map (a * ·) 0 (mul_zero a)]

theorem getLastD_map_mul (a : Rat) (l : List Rat) : (l.map (a * ·)).getLastD 0 = a * l.getLastD 0 := by
  rw [getLastD_eq_getD, getLastD_eq_getD, List.length_map, getD_map (a * ·) _ (mul_zero a)]

theorem pyMax_mul (sqrt : Rat → Rat) (a : Rat) (ha : 0 < a) (u v : Rat) :
    pyMax (ratNum sqrt) (a * u) (a * v) = a * pyMax (ratNum sqrt) u v := by
  simp only [pyMax, ratNum, decide_eq_true_eq, mul_lt_mul_iff_right₀ ha]
  split <;> rfl

theorem tricube_mul (sqrt : Rat → Rat) (a : Rat) (ha : a ≠ 0) (m d : Rat) :
    tricubeSqrt (ratNum sqrt) (a * m) (a * d) = tricubeSqrt (ratNum sqrt) m d := by
  simp only [tricubeSqrt, ratNum, mul_div_mul_left d m ha]

theorem kernelDen_aff (sqrt : Rat → Rat) (a b : Rat) (ha : 0 < a) (x : List Rat) (i left right : Nat) (hi : i < x.length) :
    kernelDen (ratNum sqrt) (x.map (aff a b)) i left right = a * kernelDen (ratNum sqrt) x i left right := by
  simp only [kernelDen, diffs_aff sqrt a b ha x i left right hi, ratNum_zero, headD_map_mul, getLastD_map_mul, pyMax_mul sqrt a ha]

/-- the distances and their maximum scale by `a`; the kernel is homogeneous of degree 0 in them -/
theorem kernelOf_aff (sqrt : Rat → Rat) (a b : Rat) (ha : 0 < a) (x : List Rat) (i left right : Nat) (hi : i < x.length) :
    kernelOf (ratNum sqrt) (x.map (aff a b)) i left right = kernelOf (ratNum sqrt) x i left right := by
  simp only [kernelOf, kernelDen_aff sqrt a b ha x i left right hi, diffs_aff sqrt a b ha x i left right hi, List.map_map]
  exact List.map_congr_left fun d _ => tricube_mul sqrt a (ne_of_gt ha) _ d

end PbVerif.Lemmas.LoessAffine
