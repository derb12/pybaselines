import PbVerif.Model.Pad
import PbVerif.Lemmas.ListAux
import Mathlib.Tactic.Ring
import Mathlib.Algebra.BigOperators.Group.List.Basic
import Mathlib.Algebra.Order.Field.Rat
/-! The 1-D part of C18: the algebra of the model's `sumL`, `optimize_window`, `padded_convolve`, and `pad_edges`.  `padEdges` is
described entry by entry: the data in the middle, `sideVal` (the least-squares line of the edge window) on either side, so that
linear data, one-point windows and (in `Pad2dLin`) linearity in the data are proved about `sideVal` once and read off for the two sides. -/
namespace PbVerif.Lemmas
open PbVerif.Pad

/-! ### sums -/
theorem Pad.sumL_eq_sum (l : List Rat) : sumL l = l.sum := by
  unfold sumL
  rw [foldl_add_eq_sum, zero_add]

theorem sumL_nil : sumL [] = 0 := rfl

theorem sumL_cons (x : Rat) (l : List Rat) : sumL (x :: l) = x + sumL l := by
  rw [Pad.sumL_eq_sum, Pad.sumL_eq_sum, List.sum_cons]

theorem sumL_range_succ (f : Nat → Rat) (w : Nat) :
    sumL ((List.range (w + 1)).map f) = sumL ((List.range w).map f) + f w := by
  rw [Pad.sumL_eq_sum, Pad.sumL_eq_sum, List.sum_range_succ]

theorem sumL_map_add {α : Type} (f g : α → Rat) (l : List α) :
    sumL (l.map fun x => f x + g x) = sumL (l.map f) + sumL (l.map g) := by
  rw [Pad.sumL_eq_sum, Pad.sumL_eq_sum, Pad.sumL_eq_sum, List.sum_map_add]

theorem sumL_map_mul_left {α : Type} (c : Rat) (f : α → Rat) (l : List α) :
    sumL (l.map fun x => c * f x) = c * sumL (l.map f) := by
  induction l with
  | nil => rw [List.map_nil, List.map_nil, sumL_nil, mul_zero]
  | cons x l ih => simp only [List.map_cons, sumL_cons, ih]; ring

theorem sumL_map_mul_right {α : Type} (c : Rat) (f : α → Rat) (l : List α) :
    sumL (l.map fun x => f x * c) = sumL (l.map f) * c := by
  simp only [mul_comm _ c]
  exact sumL_map_mul_left c f l

theorem sumL_map_const {α : Type} (c : Rat) (l : List α) :
    sumL (l.map fun _ => c) = (l.length : Rat) * c := by
  induction l with
  | nil => rw [List.map_nil, sumL_nil, List.length_nil, Nat.cast_zero, zero_mul]
  | cons x l ih => simp only [List.map_cons, sumL_cons, ih, List.length_cons]; push_cast; ring

theorem sumL_nonneg (l : List Rat) (h : ∀ v ∈ l, 0 ≤ v) : 0 ≤ sumL l := by
  induction l with
  | nil => exact le_refl _
  | cons x l ih =>
    rw [sumL_cons]
    exact add_nonneg (h x List.mem_cons_self) (ih fun v hv => h v (List.mem_cons_of_mem _ hv))

/-! ### optimize_window, padded_convolve -/
theorem optimizeWindow_ge_one (hit : Nat → Bool) (inc maxHits minHw maxHw : Nat) :
    1 ≤ optimizeWindow hit inc maxHits minHw maxHw :=
  Nat.le_max_right _ _

theorem convSame_const (c : Rat) (N : Nat) (kernel : List Rat) (q : Nat)
    (hlo : kernel.length ≤ q + (kernel.length - 1) / 2 + 1)
    (hhi : q + (kernel.length - 1) / 2 < N) :
    convSame (List.replicate N c) kernel q = sumL kernel * c := by
  unfold convSame
  simp only [List.length_replicate]
  rw [List.map_congr_left (g := fun j => kernel.getD j 0 * c), sumL_map_mul_right, map_getD_range]
  intro j hj
  have hj := List.mem_range.mp hj
  rw [if_pos (by omega), getD_replicate, if_pos (by omega)]

theorem paddedConvolve_const (c : Rat) (n : Nat) (kernel : List Rat) (hk : 1 ≤ kernel.length) (hkn : kernel.length ≤ n)
    (hsum : sumL kernel = 1) (i : Nat) (hi : i < n) :
    (paddedConvolveCore (List.replicate (n + 2 * convPadding n kernel.length) c) kernel (convPadding n kernel.length)).getD i 0 = c := by
  have hp : convPadding n kernel.length = (kernel.length + 1) / 2 := by
    unfold convPadding ceilHalf
    rw [Nat.min_eq_right hkn]
  unfold paddedConvolveCore
  rw [hp, List.length_replicate, Nat.add_sub_cancel, getD_range_map _ _ hi,
    convSame_const c _ kernel _ (by omega) (by omega), hsum, one_mul]

/-! ### pad_edges -/
/-- what a side of `_get_edges` puts at position `x` of the padded axis: the edge value `c` for a window of one point, else the
least-squares line through the window `seg`, whose first point sits at position `x0`.  Positions are naturals here; the
model's integers are their casts. -/
def sideVal (seg : List Rat) (x0 : Nat) (c : Rat) (w x : Nat) : Rat :=
  if w = 1 then c else evalLine (lsLine seg (x0 : Int)) (x : Int)

theorem sideVal_one (seg : List Rat) (x0 : Nat) (c : Rat) (x : Nat) : sideVal seg x0 c 1 x = c := rfl

theorem getEdges_eq (ys : List Rat) (pad wl wr : Nat) :
    getEdges ys pad wl wr =
      ((List.range pad).map fun k => sideVal (ys.take wl) pad (ys.getD 0 0) wl k,
       (List.range pad).map fun k => sideVal (ys.drop (ys.length - wr))
          (pad + (ys.length - (ys.drop (ys.length - wr)).length)) (ys.getD (ys.length - 1) 0) wr (pad + ys.length + k)) := by
  have hrep : ∀ c : Rat, List.replicate pad c = (List.range pad).map fun _ => c := fun c => by
    rw [List.map_const', List.length_range]
  unfold getEdges sideVal
  by_cases h1 : wl = 1 <;> by_cases h2 : wr = 1 <;> simp only [h1, h2, if_true, if_false, hrep]

theorem getEdges_left_length (ys : List Rat) (pad wl wr : Nat) : (getEdges ys pad wl wr).1.length = pad := by
  rw [getEdges_eq, List.length_map, List.length_range]

theorem getEdges_right_length (ys : List Rat) (pad wl wr : Nat) : (getEdges ys pad wl wr).2.length = pad := by
  rw [getEdges_eq, List.length_map, List.length_range]

/-- also for `pad = 0`, where both edges are empty -/
theorem padEdges_eq (ys : List Rat) (pad wl wr : Nat) :
    padEdges ys pad wl wr = (getEdges ys pad wl wr).1 ++ ys ++ (getEdges ys pad wl wr).2 := by
  unfold padEdges
  split
  · subst pad
    simp only [getEdges_eq, List.range_zero, List.map_nil, List.nil_append, List.append_nil]
  · rfl

theorem padEdges_length (ys : List Rat) (pad wl wr : Nat) : (padEdges ys pad wl wr).length = ys.length + 2 * pad := by
  rw [padEdges_eq, List.length_append, List.length_append, getEdges_left_length, getEdges_right_length]
  omega

theorem padEdges_left (ys : List Rat) (pad wl wr k : Nat) (hk : k < pad) :
    (padEdges ys pad wl wr).getD k 0 = sideVal (ys.take wl) pad (ys.getD 0 0) wl k := by
  rw [padEdges_eq, List.append_assoc, getD_append, getEdges_left_length, if_pos hk, getEdges_eq,
    getD_range_map _ _ hk]

theorem padEdges_mid (ys : List Rat) (pad wl wr i : Nat) (hi : i < ys.length) :
    (padEdges ys pad wl wr).getD (pad + i) 0 = ys.getD i 0 := by
  rw [padEdges_eq, List.append_assoc, getD_append, getEdges_left_length, if_neg (by omega),
    Nat.add_sub_cancel_left, getD_append, if_pos hi]

theorem padEdges_right (ys : List Rat) (pad wl wr k : Nat) (hk : k < pad) :
    (padEdges ys pad wl wr).getD (pad + ys.length + k) 0 =
      sideVal (ys.drop (ys.length - wr)) (pad + (ys.length - (ys.drop (ys.length - wr)).length))
        (ys.getD (ys.length - 1) 0) wr (pad + ys.length + k) := by
  rw [padEdges_eq, getD_append, List.length_append, getEdges_left_length, if_neg (by omega),
    Nat.add_sub_cancel_left, getEdges_eq, getD_range_map _ _ hk]

/-- entry `l` of the padded sequence `g 0 … g (n-1)`, the windows truncated to `n` as `_extrapolate2d` does along
every row and column -/
def ext1 (n pad wl wr : Nat) (g : Nat → Rat) (l : Nat) : Rat :=
  (padEdges ((List.range n).map g) pad (min wl n) (min wr n)).getD l 0

theorem padEdges_eq_ext1 (n pad wl wr : Nat) (g : Nat → Rat) :
    padEdges ((List.range n).map g) pad (min wl n) (min wr n) = (List.range (n + 2 * pad)).map (ext1 n pad wl wr g) := by
  have hl := padEdges_length ((List.range n).map g) pad (min wl n) (min wr n)
  rw [List.length_map, List.length_range] at hl
  rw [← hl]
  exact (map_getD_range _ 0).symm

theorem ext1_congr (n pad wl wr : Nat) (g g' : Nat → Rat) (l : Nat) (h : ∀ i, i < n → g i = g' i) :
    ext1 n pad wl wr g l = ext1 n pad wl wr g' l := by
  unfold ext1
  rw [List.map_congr_left fun i hi => h i (List.mem_range.mp hi)]

theorem drop_range_map (n w : Nat) (g : Nat → Rat) (hw : w ≤ n) :
    ((List.range n).map g).drop (n - w) = (List.range w).map fun j => g (n - w + j) := by
  apply List.ext_getElem
  · simp only [List.length_drop, List.length_map, List.length_range]; omega
  · intro i h1 h2
    simp only [List.getElem_drop, List.getElem_map, List.getElem_range]

theorem ext1_left (n pad wl wr k : Nat) (g : Nat → Rat) (hn : 1 ≤ n) (hk : k < pad) :
    ext1 n pad wl wr g k = sideVal ((List.range (min wl n)).map g) pad (g 0) (min wl n) k := by
  unfold ext1
  rw [padEdges_left _ _ _ _ _ hk, ← List.map_take, List.take_range, Nat.min_assoc, Nat.min_self,
    getD_range_map _ _ hn]

theorem ext1_mid (n pad wl wr : Nat) (g : Nat → Rat) (i : Nat) (hi : i < n) : ext1 n pad wl wr g (pad + i) = g i := by
  unfold ext1
  rw [padEdges_mid _ _ _ _ _ (by rw [List.length_map, List.length_range]; exact hi), getD_range_map _ _ hi]

theorem ext1_right (n pad wl wr k : Nat) (g : Nat → Rat) (hn : 1 ≤ n) (hk : k < pad) :
    ext1 n pad wl wr g (pad + n + k) =
      sideVal ((List.range (min wr n)).map fun j => g (n - min wr n + j)) (pad + (n - min wr n))
        (g (n - 1)) (min wr n) (pad + n + k) := by
  have e := padEdges_right ((List.range n).map g) pad (min wl n) (min wr n) k hk
  simp only [List.length_map, List.length_range] at e
  rw [drop_range_map n _ g (Nat.min_le_right _ _), List.length_map, List.length_range,
    getD_range_map _ _ (Nat.sub_lt hn Nat.one_pos)] at e
  exact e

theorem padded_cases {P : Nat → Prop} (pad n : Nat) (hL : ∀ k, k < pad → P k) (hM : ∀ i, i < n → P (pad + i))
    (hR : ∀ k, k < pad → P (pad + n + k)) (l : Nat) (hl : l < n + 2 * pad) : P l := by
  by_cases h1 : l < pad
  · exact hL l h1
  · by_cases h2 : l < pad + n
    · have := hM (l - pad) (by omega)
      rwa [Nat.add_sub_cancel' (by omega)] at this
    · have := hR (l - (pad + n)) (by omega)
      rwa [Nat.add_sub_cancel' (by omega)] at this

theorem padded_lt (pad n : Nat) :
    (∀ k, k < pad → k < n + 2 * pad) ∧ (∀ i, i < n → pad + i < n + 2 * pad) ∧ (∀ k, k < pad → pad + n + k < n + 2 * pad) :=
  ⟨fun _ _ => by omega, fun _ _ => by omega, fun _ _ => by omega⟩

theorem clampIdx_left (pad n wl wr k : Nat) (hk : k < pad) :
    clampIdx pad n wl wr k = if min wl n = 1 then pad else k := by
  unfold clampIdx
  rw [if_pos hk]

theorem clampIdx_mid (pad n wl wr i : Nat) (hi : i < n) : clampIdx pad n wl wr (pad + i) = pad + i := by
  unfold clampIdx
  rw [if_neg (by omega), if_neg (by omega)]

theorem clampIdx_right (pad n wl wr k : Nat) :
    clampIdx pad n wl wr (pad + n + k) = if min wr n = 1 then pad + n - 1 else pad + n + k := by
  unfold clampIdx
  rw [if_neg (by omega), if_pos (by omega)]

/-- both effective windows one point: `np.pad(…, 'edge')` -/
theorem ext1_one (n pad wl wr : Nat) (g : Nat → Rat) (hn : 1 ≤ n) (h1 : min wl n = 1) (h2 : min wr n = 1)
    (l : Nat) (hl : l < n + 2 * pad) : ext1 n pad wl wr g l = g (clampIdx pad n wl wr l - pad) := by
  revert l
  apply padded_cases
  · intro k hk
    rw [ext1_left _ _ _ _ _ _ hn hk, h1, sideVal_one, clampIdx_left _ _ _ _ _ hk, if_pos h1, Nat.sub_self]
  · intro i hi
    rw [ext1_mid _ _ _ _ _ _ hi, clampIdx_mid _ _ _ _ _ hi, Nat.add_sub_cancel_left]
  · intro k hk
    rw [ext1_right _ _ _ _ _ _ hn hk, h2, sideVal_one, clampIdx_right, if_pos h2, Nat.add_sub_assoc hn,
      Nat.add_sub_cancel_left]

/-! ### least-squares line -/
theorem sum_x_closed (x0 : Rat) (w : Nat) :
    sumL ((List.range w).map fun (i : Nat) => x0 + (i : Rat)) = w * x0 + w * (w - 1) / 2 := by
  induction w with
  | zero => simp [sumL_nil]
  | succ w ih => rw [sumL_range_succ, ih]; push_cast; ring

theorem sum_xx_closed (x0 : Rat) (w : Nat) :
    sumL ((List.range w).map fun (i : Nat) => (x0 + (i : Rat)) * (x0 + (i : Rat))) =
      w * x0 ^ 2 + x0 * w * (w - 1) + (w - 1) * w * (2 * w - 1) / 6 := by
  induction w with
  | zero => simp [sumL_nil]
  | succ w ih => rw [sumL_range_succ, ih]; push_cast; ring

/-- the normal equations of a line fit, solved: abscissae `x0 … x0+w-1` (sums `s1`, `s2`), ordinates on the line
`a + b·x` (sums `t0`, `t1`); the determinant is `w²(w²-1)/12` -/
theorem lsLine_core (a b x0 : Rat) (w : Nat) (hw : 2 ≤ w) (s1 s2 t0 t1 : Rat)
    (hs1 : s1 = w * x0 + w * (w - 1) / 2)
    (hs2 : s2 = w * x0 ^ 2 + x0 * w * (w - 1) + (w - 1) * w * (2 * w - 1) / 6)
    (ht0 : t0 = w * a + b * s1) (ht1 : t1 = a * s1 + b * s2) :
    (w * t1 - s1 * t0) / (w * s2 - s1 * s1) = b ∧
      (t0 - b * s1) / w = a := by
  have hw' : (2 : Rat) ≤ w := by exact_mod_cast hw
  have h0 : (0 : Rat) < w := lt_of_lt_of_le two_pos hw'
  have hden : (w : Rat) * s2 - s1 * s1 = w ^ 2 * (w - 1) * (w + 1) / 12 := by
    rw [hs1, hs2]; ring
  have hden0 : (w : Rat) * s2 - s1 * s1 ≠ 0 := by
    rw [hden]
    exact div_ne_zero (mul_ne_zero (mul_ne_zero (pow_ne_zero 2 (ne_of_gt h0))
      (ne_of_gt (sub_pos.mpr (lt_of_lt_of_le one_lt_two hw')))) (ne_of_gt (add_pos h0 one_pos))) (by norm_num)
  subst ht0 ht1
  constructor
  · rw [div_eq_iff hden0]; ring
  · rw [div_eq_iff (ne_of_gt h0)]; ring

/-- data on the line `a + b·x`, read at the positions `x0 + i`, are fitted by that line -/
theorem lsLine_linear_exact (a b : Rat) (x0 w : Nat) (hw : 2 ≤ w) (h : Nat → Rat)
    (hh : ∀ i, i < w → h i = a + b * ((x0 + i : Nat) : Rat)) :
    lsLine ((List.range w).map h) (x0 : Int) = (a, b) := by
  rw [List.map_congr_left (g := fun (i : Nat) => a + b * ((x0 : Rat) + (i : Rat)))
    fun i hi => (hh i (List.mem_range.mp hi)).trans (by rw [Nat.cast_add])]
  unfold lsLine
  simp only [List.length_map, List.length_range, List.map_map, List.zipWith_map, List.zipWith_self, Function.comp_def,
    Int.cast_add, Int.cast_natCast]
  have ht0 : sumL ((List.range w).map fun (i : Nat) => a + b * ((x0 : Rat) + (i : Rat))) =
      w * a + b * sumL ((List.range w).map fun (i : Nat) => (x0 : Rat) + (i : Rat)) := by
    rw [sumL_map_add (fun _ => a) (fun (i : Nat) => b * ((x0 : Rat) + (i : Rat))),
      sumL_map_const, sumL_map_mul_left, List.length_range]
  have ht1 : sumL ((List.range w).map fun (i : Nat) => ((x0 : Rat) + (i : Rat)) * (a + b * ((x0 : Rat) + (i : Rat)))) =
      a * sumL ((List.range w).map fun (i : Nat) => (x0 : Rat) + (i : Rat)) +
      b * sumL ((List.range w).map fun (i : Nat) => ((x0 : Rat) + (i : Rat)) * ((x0 : Rat) + (i : Rat))) := by
    rw [← sumL_map_mul_left, ← sumL_map_mul_left, ← sumL_map_add]
    exact congrArg sumL (List.map_congr_left fun i _ => by ring)
  obtain ⟨h1, h2⟩ := lsLine_core a b (x0 : Rat) w hw _ _ _ _ (sum_x_closed x0 w) (sum_xx_closed x0 w) ht0 ht1
  rw [h1, h2]

/-- a side whose window has two points or more continues the line through the data, a side with one repeats the edge
value, which lies on the line at position `e` -/
theorem sideVal_linear (a b : Rat) (x0 m w e x : Nat) (h : Nat → Rat) (hm : w ≠ 1 → 2 ≤ m)
    (hh : ∀ i, i < m → h i = a + b * ((x0 + i : Nat) : Rat)) :
    sideVal ((List.range m).map h) x0 (a + b * (e : Rat)) w x = a + b * ((if w = 1 then e else x : Nat) : Rat) := by
  unfold sideVal
  split
  · rfl
  · next hw =>
    rw [lsLine_linear_exact a b x0 m (hm hw) h hh]
    exact congrArg (a + b * ·) (Int.cast_natCast x)

/-- data on a line, in the positions of the padded axis: every entry lies on the line at `clampIdx` -/
theorem ext1_linear (n pad wl wr : Nat) (hn : 1 ≤ n) (hwl : 1 ≤ wl) (hwr : 1 ≤ wr) (g : Nat → Rat) (a b : Rat)
    (l : Nat) (hl : l < n + 2 * pad) (hg : ∀ i, i < n → g i = a + b * ((pad + i : Nat) : Rat)) :
    ext1 n pad wl wr g l = a + b * ((clampIdx pad n wl wr l : Nat) : Rat) := by
  have two : ∀ w, 1 ≤ w → min w n ≠ 1 → 2 ≤ min w n := fun w hw h => Nat.lt_of_le_of_ne (Nat.le_min.mpr ⟨hw, hn⟩) h.symm
  revert l
  apply padded_cases
  · intro k hk
    rw [ext1_left _ _ _ _ _ _ hn hk, clampIdx_left _ _ _ _ _ hk, hg 0 hn]
    exact sideVal_linear a b pad _ _ pad k g (two wl hwl) fun i hi => hg i (Nat.lt_of_lt_of_le hi (Nat.min_le_right _ _))
  · intro i hi
    rw [ext1_mid _ _ _ _ _ _ hi, clampIdx_mid _ _ _ _ _ hi, hg i hi]
  · intro k hk
    rw [ext1_right _ _ _ _ _ _ hn hk, clampIdx_right, hg (n - 1) (Nat.sub_lt hn Nat.one_pos), Nat.add_sub_assoc hn]
    exact sideVal_linear a b _ _ _ _ _ _ (two wr hwr) fun i hi => by rw [hg _ (by omega), Nat.add_assoc]

end PbVerif.Lemmas
