import PbVerif.Model.Wrapper
import PbVerif.Lemmas.ListAux
/-! Lemmas for C01 / C16: shape canonicalisation, the default x, argument binding. -/
namespace PbVerif.Lemmas
open PbVerif.Wrapper PbVerif.Validate

/-- what `_check_array(…, ensure_1d=True)` lets through; everything else raises -/
theorem canon1d_eq_some {s t : List Nat} : canon1d s = some t ↔
    (s.length = 2 ∧ 1 ∈ s ∧ t = [s.foldl (· * ·) 1]) ∨ (s.length = 1 ∧ t = s) := by
  unfold canon1d checkArrayShape
  by_cases h2 : s.length = 2
  · by_cases h1 : 1 ∈ s <;> simp [h2, h1, eq_comm]
  · by_cases hl : s.length = 1
    · simp [hl, eq_comm]
    · by_cases h0 : s.length < 1 <;> simp [h2, hl, h0]

/-- … and with `ensure_2d=True, two_d=True` -/
theorem canon2d_eq_some {s t : List Nat} : canon2d s = some t ↔
    (s.length = 3 ∧ 1 ∈ s ∧ t = s.filter (· != 1)) ∨ (s.length = 2 ∧ 1 ∉ s ∧ t = s) := by
  unfold canon2d checkArrayShape
  by_cases h3 : s.length = 3
  · by_cases h1 : 1 ∈ s <;> simp [h3, h1, eq_comm]
  · by_cases h2 : s.length = 2
    · by_cases h1 : 1 ∈ s <;> simp [h2, h1, eq_comm]
    · by_cases h0 : s.length < 1
      · simp [h3, h2, h0]
      · by_cases hlt : s.length < 2 <;> simp [h3, h2, h0, hlt]

theorem canon1d_variants (n : Nat) :
    canon1d [n] = some [n] ∧ canon1d [n, 1] = some [n] ∧ canon1d [1, n] = some [n] :=
  ⟨canon1d_eq_some.2 (.inr ⟨rfl, rfl⟩), canon1d_eq_some.2 (.inl ⟨rfl, by simp, by simp⟩),
    canon1d_eq_some.2 (.inl ⟨rfl, by simp, by simp⟩)⟩

theorem canon2d_variants (m n : Nat) (hm : 2 ≤ m) (hn : 2 ≤ n) :
    canon2d [m, n] = some [m, n] ∧ canon2d [m, n, 1] = some [m, n] ∧ canon2d [1, m, n] = some [m, n] ∧
    canon2d [m, 1, n] = some [m, n] := by
  have h1 : m ≠ 1 := by omega
  have h2 : n ≠ 1 := by omega
  exact ⟨canon2d_eq_some.2 (.inr ⟨rfl, by simp [h1.symm, h2.symm], rfl⟩),
    canon2d_eq_some.2 (.inl ⟨rfl, by simp, by simp [h1, h2]⟩),
    canon2d_eq_some.2 (.inl ⟨rfl, by simp, by simp [h1, h2]⟩),
    canon2d_eq_some.2 (.inl ⟨rfl, by simp, by simp [h1, h2]⟩)⟩

/-- `2 ≤ t.length` is needed: `canon2d [5,1,1] = some [5]` but `canon2d [5] = none`, i.e. the code squeezes a (5,1,1) stack to a
1-D array; such input then fails later with an ordinary exception. -/
theorem canon2d_idem (s t : List Nat) (h : canon2d s = some t) (hlen : 2 ≤ t.length) : canon2d t = some t := by
  rcases canon2d_eq_some.1 h with ⟨h3, hm, rfl⟩ | ⟨h2, hm, rfl⟩
  · -- at least one of the three axes went, at most one may have
    have := List.length_filter_lt_length_iff_exists (p := fun x => x != 1) (l := s) |>.2 ⟨1, hm, by simp⟩
    exact canon2d_eq_some.2 (.inr ⟨by omega, by simp, rfl⟩)
  · exact canon2d_eq_some.2 (.inr ⟨h2, hm, rfl⟩)

theorem resultShape_false (s : List Nat) : resultShape false s = canon1d s := rfl
theorem resultShape_true (s : List Nat) : resultShape true s = canon2d s := rfl

theorem dtype_rule (d i : DType) : outDtype (some d) i = d ∧ outDtype none i = i := by
  simp [outDtype]

theorem linspaceX_length (n : Nat) : (linspaceX n).length = n := by
  rw [linspaceX, List.length_map, List.length_range]

theorem linspaceX_getD (n i : Nat) (hi : i < n) :
    (linspaceX n).getD i 0 = if n = 1 then -1 else -1 + 2 * (i : Rat) / ((n - 1 : Nat) : Rat) :=
  getD_range_map _ 0 hi

theorem eraseDups_of_nodup {α} [BEq α] [LawfulBEq α] (l : List α) (h : l.Nodup) : l.eraseDups = l := by
  induction l with
  | nil => rfl
  | cons a as ih =>
    rw [List.nodup_cons] at h
    have hf : as.filter (fun b => !b == a) = as := by
      rw [List.filter_eq_self]
      intro b hb
      have : b ≠ a := fun e => h.1 (e ▸ hb)
      simpa using this
    rw [List.eraseDups_cons, hf, ih h.2]

theorem filterMap_congr {α β} {f g : α → Option β} {l : List α} (h : ∀ x ∈ l, f x = g x) :
    l.filterMap f = l.filterMap g := by
  induction l with
  | nil => rfl
  | cons a l ih =>
    simp only [List.filterMap_cons, h a (List.mem_cons_self ..)]
    rw [ih (fun x hx => h x (List.mem_cons_of_mem _ hx))]

theorem filterMap_find_zip (P : List String) (V : List Rat) (h : P.Nodup) :
    P.filterMap (fun p => ((P.zip V).find? (·.1 == p)).map fun kv => (p, kv.2)) = P.zip V := by
  induction P generalizing V with
  | nil => simp
  | cons p P ih =>
    cases V with
    | nil => simp
    | cons v V =>
      rw [List.nodup_cons] at h
      simp only [List.zip_cons_cons, List.filterMap_cons, List.find?_cons, beq_self_eq_true, Option.map_some]
      congr 1
      refine Eq.trans (filterMap_congr ?_) (ih V h.2)
      intro q hq
      have : (p == q) = false := by
        have : p ≠ q := fun e => h.1 (e ▸ hq)
        simpa using this
      simp [this]

theorem bindArgs_zip (params : List String) (pos rest : List Rat) (hp : params.Nodup)
    (hl : pos.length ≤ params.length) :
    bindArgs params pos ((params.drop pos.length).zip rest) = some (params.zip (pos ++ rest)) := by
  have hq : (params.drop pos.length).Nodup := hp.sublist (List.drop_sublist _ _)
  have h2 : ((params.drop pos.length).zip rest).any (fun kv => !(params.drop pos.length).contains kv.1) = false := by
    rw [List.any_eq_false]
    intro kv hkv
    simp [(List.of_mem_zip hkv).1]
  unfold bindArgs
  rw [if_neg (Nat.not_lt.2 hl), if_neg (by rw [h2]; exact Bool.false_ne_true),
    eraseDups_of_nodup _ (zip_fst_nodup hq _), filterMap_find_zip _ _ hq]
  simp only [List.length_map, bne_self_eq_false, Bool.false_eq_true, if_false]
  conv => rhs; rw [← List.take_append_drop pos.length params]
  rw [List.zip_append (by simp [hl])]

end PbVerif.Lemmas
