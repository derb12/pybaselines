import PbVerif.Lemmas.Pad
/-! Padding along one axis commutes with padding along the other.  Every entry of the padded sequence `ext1` is a linear
combination of the data with weights that do not depend on them (`IsLin`): the data themselves, an edge value, or the
value of a least-squares line, which is `Σ (A + B·x_i)·y_i`.  Padding the rows and padding the columns of a matrix are
therefore a right and a left multiplication by fixed matrices. -/
namespace PbVerif.Lemmas
open PbVerif.Pad

def IsLin (Φ : (Nat → Rat) → Rat) : Prop :=
  ∃ K : List (Nat × Rat), ∀ g, Φ g = sumL (K.map fun p => p.2 * g p.1)

theorem isLin_eval (j0 : Nat) : IsLin (fun g => g j0) :=
  ⟨[(j0, 1)], fun g => by rw [List.map_cons, List.map_nil, sumL_cons, sumL_nil, add_zero, one_mul]⟩

theorem isLin_window (d w : Nat) (c : Nat → Rat) : IsLin fun g => sumL ((List.range w).map fun j => c j * g (d + j)) :=
  ⟨(List.range w).map fun j => (d + j, c j), fun g => by rw [List.map_map]; rfl⟩

/-- the value of the least-squares line at `x` is `Σ (A + B·(x0+i))·h i`, with `A`, `B` free of `h`.  The weights are
left as `lsLine` computes them (`W * s1 / den / W`, not `s1 / den`): the closing `ring` then needs neither `W ≠ 0` nor
`den ≠ 0`, since `x / 0 = 0` on both sides. -/
theorem lsLine_eval_lin (w : Nat) (x0 x : Int) :
    ∃ c : Nat → Rat, ∀ h : Nat → Rat,
      evalLine (lsLine ((List.range w).map h) x0) x = sumL ((List.range w).map fun i => c i * h i) := by
  let xs : List Rat := (List.range w).map fun (i : Nat) => (((x0 + (i : Int)) : Int) : Rat)
  let s1 := sumL xs
  let s2 := sumL (xs.map fun x => x * x)
  let W : Rat := (w : Nat)
  let den := W * s2 - s1 * s1
  refine ⟨fun i => (1 / W + s1 * s1 / den / W - s1 / den * (x : Rat)) +
    (- (W * s1 / den / W) + W / den * (x : Rat)) * (((x0 + (i : Int)) : Int) : Rat), fun h => ?_⟩
  unfold lsLine evalLine
  simp only [List.length_map, List.length_range, List.zipWith_map, List.zipWith_self, add_mul, mul_assoc, sumL_map_add,
    sumL_map_mul_left]
  ring

theorem sideVal_isLin (d m j0 w x0 x : Nat) :
    IsLin fun g => sideVal ((List.range m).map fun j => g (d + j)) x0 (g j0) w x := by
  unfold sideVal
  split
  · exact isLin_eval j0
  · obtain ⟨c, hc⟩ := lsLine_eval_lin m (x0 : Int) (x : Int)
    simp only [hc]
    exact isLin_window d m c

theorem ext1_isLin (N pad wl wr l : Nat) (hN : 1 ≤ N) (hl : l < N + 2 * pad) : IsLin (ext1 N pad wl wr · l) := by
  revert l
  apply padded_cases
  · intro k hk
    simp only [ext1_left _ _ _ _ _ _ hN hk]
    simpa only [Nat.zero_add] using sideVal_isLin 0 (min wl N) 0 (min wl N) pad k
  · intro i hi
    simp only [ext1_mid _ _ _ _ _ _ hi]
    exact isLin_eval i
  · intro k hk
    simp only [ext1_right _ _ _ _ _ _ hN hk]
    exact sideVal_isLin (N - min wr N) (min wr N) (N - 1) _ _ _

theorem sumL_swap {α β : Type} (L : List α) (L' : List β) (a : α → Rat) (b : β → Rat) (f : α → β → Rat) :
    sumL (L.map fun p => a p * sumL (L'.map fun q => b q * f p q)) =
      sumL (L'.map fun q => b q * sumL (L.map fun p => a p * f p q)) := by
  induction L with
  | nil =>
    simp only [List.map_nil, sumL_nil, mul_zero]
    rw [sumL_map_const, mul_zero]
  | cons p L ih =>
    rw [List.map_cons, sumL_cons, ih, ← sumL_map_mul_left, ← sumL_map_add]
    refine congrArg sumL (List.map_congr_left fun q _ => ?_)
    rw [List.map_cons, sumL_cons]
    ring

theorem ext1_comm (M N pr pc wt wb wl wr : Nat) (f : Nat → Nat → Rat) (hM : 1 ≤ M) (hN : 1 ≤ N) (k l : Nat)
    (hk : k < M + 2 * pr) (hl : l < N + 2 * pc) :
    ext1 M pr wt wb (fun i => ext1 N pc wl wr (fun j => f i j) l) k =
      ext1 N pc wl wr (fun j => ext1 M pr wt wb (fun i => f i j) k) l := by
  obtain ⟨Kc, hKc⟩ := ext1_isLin M pr wt wb k hM hk
  obtain ⟨Kr, hKr⟩ := ext1_isLin N pc wl wr l hN hl
  simp only [hKc, hKr]
  exact sumL_swap Kc Kr _ _ _

end PbVerif.Lemmas
