import PbVerif.Lemmas.BandTable
import PbVerif.Model.PSpline
/-! Band arrays that store a given matrix. `LowerBand T R n A`, `FullBand T u n A`, `RowwiseBand T u n A` say that the
array `T` has the shape of its layout and that the layout's reading of it (`denLower`, `denFull`, `denRowwise`) is `A` on
`n × n`. Every array operation of the assemblies acts on the stored matrix in the obvious way; an assembly is then a
composition of these facts, ending in `.congr` with the documented matrix. -/
namespace PbVerif.Lemmas
open PbVerif.Banded PbVerif.Whittaker PbVerif.Backend

/-- LAPACK lower storage in `R` rows, read symmetrically as by `solveh_banded(lower=True)` -/
structure LowerBand (T : List (List Rat)) (R n : Nat) (A : Nat → Nat → Rat) : Prop where
  shape : TblShape T R n
  den : ∀ i j, i < n → j < n → denLower T i j = A i j

/-- LAPACK full storage with `u` bands a side, as `solve_banded((u, u), …)` reads it -/
structure FullBand (T : List (List Rat)) (u n : Nat) (A : Nat → Nat → Rat) : Prop where
  shape : TblShape T (2 * u + 1) n
  den : ∀ i j, i < n → j < n → denFull T u i j = A i j

/-- the same bands in pentapy's row-wise storage: entry `(i, j)` sits in column `i` -/
structure RowwiseBand (T : List (List Rat)) (u n : Nat) (A : Nat → Nat → Rat) : Prop where
  shape : TblShape T (2 * u + 1) n
  den : ∀ i j, i < n → j < n → denRowwise T u i j = A i j

theorem lowerBand_bandsQ (n d : Nat) : LowerBand (bandsQ n d true) (d + 1) n (dtdQ n d) :=
  ⟨shape_bandsQ_lower n d, denLower_bandsQ n d⟩
theorem fullBand_bandsQ (n d : Nat) : FullBand (bandsQ n d false) d n (dtdQ n d) :=
  ⟨shape_bandsQ_full n d, denFull_bandsQ n d⟩

namespace LowerBand
variable {T a b : List (List Rat)} {R R' n : Nat} {A B : Nat → Nat → Rat}

theorem congr (h : LowerBand T R n A) (e : ∀ i j, i < n → j < n → A i j = B i j) : LowerBand T R n B :=
  ⟨h.shape, fun i j hi hj => (h.den i j hi hj).trans (e i j hi hj)⟩

theorem scale (h : LowerBand T R n A) (c : Rat) : LowerBand (Whittaker.scale c T) R n fun i j => c * A i j :=
  ⟨shape_scale c _ _ _ h.shape, fun i j hi hj => by rw [denLower_eq, ent_scale, ← denLower_eq, h.den i j hi hj]⟩

theorem padLower (h : LowerBand T R n A) (p : Nat) (e : R + p = R') : LowerBand (Whittaker.padLower T p n) R' n A :=
  ⟨(shape_padLower T p n R h.shape).cast e, fun i j hi hj => by rw [denLower_eq, ent_padLower, ← denLower_eq, h.den i j hi hj]⟩

theorem addB (ha : LowerBand a R n A) (hb : LowerBand b R n B) : LowerBand (Whittaker.addB a b) R n fun i j => A i j + B i j :=
  ⟨shape_addB a b R n ha.shape hb.shape, fun i j hi hj => by
    rw [denLower_eq, ent_addB a b R n _ _ ha.shape hb.shape, ← denLower_eq, ← denLower_eq, ha.den i j hi hj, hb.den i j hi hj]⟩

theorem addRow (h : LowerBand T R n A) (hR : 0 < R) {w : List Rat} (hw : w.length = n) :
    LowerBand (Whittaker.addRow T 0 w) R n fun i j => A i j + delta i j (w.getD i 0) :=
  ⟨shape_addRow T 0 w R n h.shape hw, fun i j hi hj => by
    rw [← h.den i j hi hj, denLower_eq, denLower_eq,
      ent_addRow_diag T 0 w R n h.shape hw hR i j _ _ (by omega) (fun e => by rw [e, Nat.min_self])]⟩

theorem addRowC (h : LowerBand T R n A) (hR : 0 < R) (c : Rat) :
    LowerBand (Whittaker.addRowC T 0 c) R n fun i j => A i j + delta i j c := by
  rw [addRowC_eq_addRow h.shape]
  exact (h.addRow hR List.length_replicate).congr fun i j hi _ => by rw [getD_replicate, if_pos hi]

end LowerBand

namespace RowwiseBand
variable {T a b : List (List Rat)} {u n : Nat} {A B : Nat → Nat → Rat}

theorem congr (h : RowwiseBand T u n A) (e : ∀ i j, i < n → j < n → A i j = B i j) : RowwiseBand T u n B :=
  ⟨h.shape, fun i j hi hj => (h.den i j hi hj).trans (e i j hi hj)⟩

theorem addB (ha : RowwiseBand a u n A) (hb : RowwiseBand b u n B) : RowwiseBand (Whittaker.addB a b) u n fun i j => A i j + B i j := by
  refine ⟨shape_addB a b _ n ha.shape hb.shape, fun i j hi hj => ?_⟩
  rw [← ha.den i j hi hj, ← hb.den i j hi hj, denRowwise_eq_ent, denRowwise_eq_ent, denRowwise_eq_ent]
  split
  · rw [ent_addB a b _ n _ _ ha.shape hb.shape]
  · rw [add_zero]

/-- `T * w` scales column `i` of the array, which in row-wise storage holds ROW `i` of the matrix -/
theorem colScale (h : RowwiseBand T u n A) {w : List Rat} (hw : w.length = n) :
    RowwiseBand (Whittaker.colScale T w) u n fun i j => w.getD i 0 * A i j := by
  refine ⟨shape_colScale T w _ n h.shape hw, fun i j hi hj => ?_⟩
  rw [← h.den i j hi hj, denRowwise_eq_ent, denRowwise_eq_ent]
  split
  · rw [ent_colScale, mul_comm]
  · rw [mul_zero]

theorem addRow (h : RowwiseBand T u n A) {w : List Rat} (hw : w.length = n) :
    RowwiseBand (Whittaker.addRow T u w) u n fun i j => A i j + delta i j (w.getD i 0) := by
  refine ⟨shape_addRow T u w _ n h.shape hw, fun i j hi hj => ?_⟩
  rw [← h.den i j hi hj, denRowwise_eq_ent, denRowwise_eq_ent]
  split
  · rw [ent_addRow_diag T u w _ n h.shape hw (by omega) i j _ _ (by omega) fun _ => rfl]
  · rw [delta, if_neg (by omega), add_zero]

theorem addRowC (h : RowwiseBand T u n A) (c : Rat) :
    RowwiseBand (Whittaker.addRowC T u c) u n fun i j => A i j + delta i j c := by
  rw [addRowC_eq_addRow h.shape]
  exact (h.addRow List.length_replicate).congr fun i j hi _ => by rw [getD_replicate, if_pos hi]

end RowwiseBand

namespace FullBand
variable {T a b : List (List Rat)} {u n : Nat} {A B : Nat → Nat → Rat}

theorem congr (h : FullBand T u n A) (e : ∀ i j, i < n → j < n → A i j = B i j) : FullBand T u n B :=
  ⟨h.shape, fun i j hi hj => (h.den i j hi hj).trans (e i j hi hj)⟩

theorem scale (h : FullBand T u n A) (c : Rat) : FullBand (Whittaker.scale c T) u n fun i j => c * A i j :=
  ⟨shape_scale c _ _ _ h.shape, fun i j hi hj => by rw [denFull_scale, h.den i j hi hj]⟩

theorem pad (h : FullBand T u n A) (p : Nat) {v : Nat} (hv : u + p = v) : FullBand (padFull T p n) v n A :=
  ⟨shape_padFull_of T u p n v h.shape hv, fun i j hi hj => by rw [denFull_padFull T u p n v i j hv, h.den i j hi hj]⟩

theorem addB (ha : FullBand a u n A) (hb : FullBand b u n B) : FullBand (Whittaker.addB a b) u n fun i j => A i j + B i j :=
  ⟨shape_addB a b _ n ha.shape hb.shape, fun i j hi hj => by
    rw [denFull_addB a b u _ n ha.shape hb.shape, ha.den i j hi hj, hb.den i j hi hj]⟩

theorem addRow (h : FullBand T u n A) {w : List Rat} (hw : w.length = n) :
    FullBand (Whittaker.addRow T u w) u n fun i j => A i j + delta i j (w.getD i 0) := by
  refine ⟨shape_addRow T u w _ n h.shape hw, fun i j hi hj => ?_⟩
  rw [← h.den i j hi hj, denFull_eq_ent, denFull_eq_ent]
  split
  · rw [ent_addRow_diag T u w _ n h.shape hw (by omega) i j _ _ (by omega) Eq.symm]
  · rw [delta, if_neg (by omega), add_zero]

theorem addRowC (h : FullBand T u n A) (c : Rat) :
    FullBand (Whittaker.addRowC T u c) u n fun i j => A i j + delta i j c := by
  rw [addRowC_eq_addRow h.shape]
  exact (h.addRow List.length_replicate).congr fun i j hi _ => by rw [getD_replicate, if_pos hi]

theorem reverse (h : FullBand T u n A) : RowwiseBand T.reverse u n fun i j => A j i :=
  ⟨shape_reverse _ _ _ h.shape, fun i j hi hj => by rw [denRowwise_reverse _ _ _ _ h.shape.1, h.den j i hj hi]⟩

theorem ofRowwise (h : RowwiseBand T u n A) : FullBand (shiftRows T u u) u n A :=
  ⟨shape_shiftRows _ _ _ _ _ h.shape, fun i j hi hj => by rw [denFull_shiftRows T u n i j h.shape hj, h.den i j hi hj]⟩

theorem shiftRevColScale (h : FullBand T u n A) {w : List Rat} (hw : w.length = n) :
    FullBand (shiftRows (Whittaker.colScale T.reverse w) u u) u n fun i j => w.getD i 0 * A j i :=
  .ofRowwise (h.reverse.colScale hw)

end FullBand

/-! ### the remaining operations of `_banded_utils.py`: `_add_diagonals`, `_lower_to_full` (`Model/PSpline`) -/

open PbVerif.PSpline

theorem LowerBand.self {T : List (List Rat)} {R n : Nat} (h : TblShape T R n) : LowerBand T R n (denLower T) :=
  ⟨h, fun _ _ _ _ => rfl⟩

theorem LowerBand.addDiagonals {a b : List (List Rat)} {Ra Rb n : Nat} {A B : Nat → Nat → Rat}
    (ha : LowerBand a Ra n A) (hb : LowerBand b Rb n B) :
    LowerBand (addDiagonalsLower a b n) (max Ra Rb) n fun i j => A i j + B i j := by
  unfold addDiagonalsLower
  rw [ha.shape.1, hb.shape.1]
  exact (ha.padLower _ (Nat.add_sub_cancel' (Nat.le_max_left Ra Rb))).addB (hb.padLower _ (Nat.add_sub_cancel' (Nat.le_max_right Ra Rb)))

theorem FullBand.self {T : List (List Rat)} {u n : Nat} (h : TblShape T (2 * u + 1) n) : FullBand T u n (denFull T u) :=
  ⟨h, fun _ _ _ _ => rfl⟩

theorem scale_reverse (c : Rat) (T : List (List Rat)) : scale c T.reverse = (scale c T).reverse :=
  List.map_reverse

theorem getD_lowerToFullQ (ab : List (List Rat)) (u t : Nat) (h : ab.length = u + 1) :
    (lowerToFullQ ab).getD t [] = if t < u then shiftRightQ (u - t) (ab.getD (u - t) []) else ab.getD (t - u) [] :=
  getD_flipUpper shiftRightQ ab u t h

theorem shape_lowerToFullQ (ab : List (List Rat)) (u n : Nat) (h : TblShape ab (u + 1) n) : TblShape (lowerToFullQ ab) (2 * u + 1) n := by
  refine ⟨by simp only [lowerToFullQ, List.length_append, List.length_map, List.length_zipIdx, List.length_reverse, List.length_tail, h.1]; omega,
    fun r hr => ?_⟩
  rw [getD_lowerToFullQ ab u r h.1]
  split
  · rw [length_shiftRightQ]; exact h.2 _ (by omega)
  · exact h.2 _ (by omega)

theorem denFull_lowerToFullQ (ab : List (List Rat)) (u n : Nat) (h : TblShape ab (u + 1) n) (i j : Nat) (hj : j < n) :
    denFull (lowerToFullQ ab) u i j = denLower ab i j := by
  rw [denFull_eq_ent, denLower_eq]
  by_cases hji : j ≤ i
  · rw [if_pos (Nat.le_add_right_of_le hji), Nat.max_eq_left hji, Nat.min_eq_right hji, ent, Nat.add_sub_assoc hji,
      getD_lowerToFullQ ab u _ h.1, if_neg (Nat.not_lt.2 (Nat.le_add_right u _)), Nat.add_sub_cancel_left, ent]
  · have hij : i ≤ j := Nat.le_of_not_le hji
    rw [Nat.max_eq_right hij, Nat.min_eq_left hij]
    by_cases hb : j ≤ i + u
    · rw [if_pos hb, ent, show u + i - j = u - (j - i) by omega, getD_lowerToFullQ ab u _ h.1, if_pos (by omega),
        Nat.sub_sub_self (by omega), getD_shiftRightQ, h.2 _ (by omega), if_neg (by omega), Nat.sub_sub_self hij, ent]
    · rw [if_neg hb, ent_oob_row _ _ _ (by rw [h.1]; omega)]

theorem FullBand.ofLower {T : List (List Rat)} {R u n : Nat} {A : Nat → Nat → Rat} (h : LowerBand T R n A) (hR : R = u + 1) :
    FullBand (lowerToFullQ T) u n A := by
  subst hR
  exact ⟨shape_lowerToFullQ T u n h.shape, fun i j hi hj => by rw [denFull_lowerToFullQ T u n h.shape i j hj, h.den i j hi hj]⟩

theorem half_pad (a b : Nat) : (max (2 * a + 1) (2 * b + 1) - (2 * a + 1)) / 2 = max a b - a := by
  rcases Nat.le_total a b with h | h
  · rw [Nat.max_eq_right h, Nat.max_eq_right (by omega), Nat.add_sub_add_right, ← Nat.mul_sub, Nat.mul_div_cancel_left _ Nat.two_pos]
  · rw [Nat.max_eq_left h, Nat.max_eq_left (by omega), Nat.sub_self, Nat.sub_self]

theorem addDiagonalsFull_eq (a b : List (List Rat)) (ua ub n : Nat) (ha : a.length = 2 * ua + 1) (hb : b.length = 2 * ub + 1) :
    addDiagonalsFull a b n = addB (padFull a (max ua ub - ua) n) (padFull b (max ua ub - ub) n) := by
  rw [addDiagonalsFull, ha, hb, half_pad, Nat.max_comm (2 * ua + 1), half_pad, Nat.max_comm ub]

theorem addDiagonalsFull_den (a b : List (List Rat)) (ua ub n : Nat) (ha : TblShape a (2 * ua + 1) n) (hb : TblShape b (2 * ub + 1) n) (i j : Nat) :
    denFull (addDiagonalsFull a b n) (max ua ub) i j = denFull a ua i j + denFull b ub i j := by
  rw [addDiagonalsFull_eq a b ua ub n ha.1 hb.1,
    denFull_addB _ _ _ _ n (shape_padFull_of a ua _ n _ ha (Nat.add_sub_cancel' (Nat.le_max_left ua ub)))
      (shape_padFull_of b ub _ n _ hb (Nat.add_sub_cancel' (Nat.le_max_right ua ub))),
    denFull_padFull a ua _ n _ i j (Nat.add_sub_cancel' (Nat.le_max_left ua ub)),
    denFull_padFull b ub _ n _ i j (Nat.add_sub_cancel' (Nat.le_max_right ua ub))]

theorem FullBand.addDiagonals {a b : List (List Rat)} {u ua ub n : Nat} {A B : Nat → Nat → Rat}
    (ha : FullBand a ua n A) (hb : FullBand b ub n B) (hu : max ua ub = u) :
    FullBand (addDiagonalsFull a b n) u n fun i j => A i j + B i j := by
  rw [addDiagonalsFull_eq a b ua ub n ha.shape.1 hb.shape.1, ← hu]
  exact (ha.pad _ (Nat.add_sub_cancel' (Nat.le_max_left ua ub))).addB (hb.pad _ (Nat.add_sub_cancel' (Nat.le_max_right ua ub)))

end PbVerif.Lemmas
