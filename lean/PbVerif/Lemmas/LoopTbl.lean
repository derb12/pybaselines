import PbVerif.Model.LoopTbl
import PbVerif.Lemmas.Loop
import Mathlib.Algebra.Order.Field.Rat
/-! The table interpreter `PbVerif.LoopTbl`: what a run looks like is proved once, for every row that meets the decidable
condition `Row.ok`, so that the per-method statements of Props/C01 and Props/C09 follow by `decide` over the regenerated
table `Gen.loopTable`. -/
namespace PbVerif.Lemmas.LoopTbl
open PbVerif.LoopTbl PbVerif.Loop

/-- the record of a correct loop after `n` recorded steps: index `k` written in step `k` -/
def pairs (n : Nat) : List (Int × Nat) := (List.range n).map fun (k : Nat) => ((k : Int), k)

theorem pairs_succ (n : Nat) : pairs (n + 1) = pairs n ++ [((n : Int), n)] := by
  simp [pairs, List.range_succ]

theorem mem_pairs {n : Nat} {x : Int × Nat} : x ∈ pairs n ↔ x.2 < n ∧ x.1 = (x.2 : Int) := by
  obtain ⟨a, b⟩ := x
  simp only [pairs, List.mem_map, List.mem_range, Prod.mk.injEq]
  constructor
  · rintro ⟨k, hk, rfl, rfl⟩; exact ⟨hk, rfl⟩
  · rintro ⟨h1, h2⟩; exact ⟨b, h1, h2.symm, rfl⟩

theorem fires_flag (a b : Bool) : Test.fires .flag a b = b := rfl
theorem reason_flag (a : Bool) : Test.reason .flag a = .early := rfl

theorem reason_ne_exhausted (t : Test) (lt : Bool) : t.reason lt ≠ .exhausted := by
  cases t <;> cases lt <;> decide

theorem lt_of_fires_converged {t : Test} {lt f : Bool} (hf : t.fires lt f = true) (hc : t.reason lt = .converged) : lt = true := by
  revert hf hc
  cases t <;> cases lt <;> cases f <;> decide

theorem flag_of_fires_early {t : Test} {lt f : Bool} (hf : t.fires lt f = true) (he : t.reason lt = .early) : f = true := by
  revert hf he
  cases t <;> cases lt <;> cases f <;> decide

theorem fires_of_lt {t : Test} (ht : t = .tol ∨ t = .tolOr) (f : Bool) : t.fires true f = true := by
  rcases ht with rfl | rfl <;> rfl

/-! ### every `bodyOk` body: what a run looks like -/

/-- what `bodyOk` is for: the record stays of the form `pairs _`, and the slice bound `i' + sl` a break hands back counts exactly
the entries recorded (`m = k` before the write of step `k`, `k + 1` after it) -/
theorem body_spec (lo sl : Int) (tol : Rat) (d : Nat → Rat) (fl : Nat → Nat → Bool) (k : Nat)
    (es : List Ev) (wr : Bool) (p : Nat) (w : List (Int × Nat))
    (hok : bodyOk lo sl es wr = true) (hw : w = pairs (if wr then k + 1 else k)) :
    match body tol d fl k (lo + (k : Int)) es p w with
    | (w', none) => w' = pairs (k + 1) ∧ (hasTol es = true → ¬ d k < tol)
    | (w', some (i', s)) => ∃ m : Nat, k ≤ m ∧ m ≤ k + 1 ∧ w' = pairs m ∧ i' + sl = (m : Int) ∧
        (s = .converged → m = k + 1 ∧ d k < tol) ∧ (s = .early → ∃ q, fl k q = true) ∧ s ≠ .exhausted := by
  -- the four equations of `body`: end of the body, a write, a break that fires (`hf`), a break that does not
  fun_induction body tol d fl k (lo + (k : Int)) es p w generalizing wr with
  | case1 p w =>
    obtain rfl : wr = true := hok
    exact ⟨hw, fun h => by cases h⟩
  | case2 off es p w ih =>
    simp only [bodyOk, Bool.and_eq_true, Bool.not_eq_true', decide_eq_true_eq] at hok
    obtain ⟨⟨rfl, hoff⟩, hrest⟩ := hok
    have e : lo + (k : Int) + off = (k : Int) := by omega
    exact ih true hrest (by rw [hw, e]; exact (pairs_succ k).symm)
  | case3 t dec es p w hf =>
    simp only [bodyOk, Bool.and_eq_true, decide_eq_true_eq, Bool.or_eq_true, beq_iff_eq] at hok
    obtain ⟨⟨hdec, hflag⟩, -⟩ := hok
    refine ⟨if wr then k + 1 else k, by split <;> omega, by split <;> omega, hw, ?_,
      fun hc => ?_, fun he => ⟨p, flag_of_fires_early hf he⟩, reason_ne_exhausted _ _⟩
    -- `hdec`: the decrement of this break makes the slice bound the number of entries recorded so far
    · cases wr
      · rw [if_neg Bool.false_ne_true] at hdec ⊢; omega
      · rw [if_pos rfl] at hdec ⊢; omega
    -- a test on the recorded value only occurs after the write
    · rcases hflag with rfl | rfl
      · exact ⟨rfl, of_decide_eq_true (lt_of_fires_converged hf hc)⟩
      · cases hc
  | case4 t dec es p w hf ih =>
    simp only [bodyOk, Bool.and_eq_true, decide_eq_true_eq, Bool.or_eq_true, beq_iff_eq] at hok
    have := ih wr hok.2 hw
    generalize body tol d fl k (lo + (k : Int)) es (p + 1) w = bd at this ⊢
    obtain ⟨w', _ | ⟨i', s⟩⟩ := bd
    · refine ⟨this.1, fun ht => ?_⟩
      simp only [hasTol, Bool.or_eq_true, beq_iff_eq] at ht
      rcases ht with ht | ht
      · exact fun hlt => hf (by rw [decide_eq_true hlt]; exact fires_of_lt ht _)
      · exact this.2 ht
    · exact this

/-- what a run of an `ok` row from step `k`, which may go on up to step `N`, hands back whatever the numeric work does -/
structure Good (r : Row) (tol : Rat) (d : Nat → Rat) (fl : Nat → Nat → Bool) (k N : Nat) (res : Res) : Prop where
  notRaised : res.raised = false
  len_le : res.slice.toNat ≤ N
  slice_eq : res.slice = (res.slice.toNat : Int)
  writes_eq : res.writes = pairs res.slice.toNat
  conv : res.stop = .converged → res.steps + 1 = res.slice.toNat ∧ d res.steps < tol
  exh : res.stop = .exhausted → res.steps = N ∧ res.slice.toNat = N
  early : res.stop = .early → (∃ q, fl res.steps q = true) ∧ res.steps < N ∧ res.slice.toNat ≤ res.steps + 1 ∧ res.steps ≤ res.slice.toNat
  first : hasTol r.body = true → ∀ j, k ≤ j → j < res.steps → ¬ d j < tol

theorem Good.of_len {r : Row} {tol : Rat} {d : Nat → Rat} {fl : Nat → Nat → Bool} {k N m st : Nat} {s : Stop} {w : List (Int × Nat)}
    (hw : w = pairs m) (hle : m ≤ N) (conv : s = .converged → st + 1 = m ∧ d st < tol) (exh : s = .exhausted → st = N ∧ m = N)
    (early : s = .early → (∃ q, fl st q = true) ∧ st < N ∧ m ≤ st + 1 ∧ st ≤ m)
    (first : hasTol r.body = true → ∀ j, k ≤ j → j < st → ¬ d j < tol) : Good r tol d fl k N ⟨false, w, (m : Int), st, s⟩ :=
  ⟨rfl, hle, rfl, hw, conv, exh, early, first⟩

theorem loop_spec (r : Row) (hb : bodyOk r.lo r.sliceOff r.body false = true) (hls : r.lo + r.sliceOff = 1)
    (tol : Rat) (d : Nat → Rat) (fl : Nat → Nat → Bool) (N : Nat) :
    ∀ (f k : Nat) (w : List (Int × Nat)), w = pairs k → k + f = N → Good r tol d fl k N (loop r tol d fl f k w) := by
  intro f
  induction f with
  | zero =>
    rintro k w hw rfl
    have hs : r.lo + (k : Int) - 1 + r.sliceOff = (k : Int) := by omega
    rw [loop, hs]
    exact .of_len hw (Nat.le_refl _) nofun (fun _ => ⟨rfl, rfl⟩) nofun fun _ j h1 h2 => absurd h2 (Nat.not_lt.2 h1)
  | succ f ih =>
    intro k w hw hN
    have hsp := body_spec r.lo r.sliceOff tol d fl k r.body false 0 w hb hw
    rw [loop]
    generalize body tol d fl k (r.lo + (k : Int)) r.body 0 w = bd at hsp
    obtain ⟨w', _ | ⟨i', s⟩⟩ := bd
    · obtain ⟨hw', hnt⟩ := hsp
      have g := ih (k + 1) w' hw' (by omega)
      refine { g with first := fun ht j h1 h2 => ?_ }
      rcases Nat.eq_or_lt_of_le h1 with rfl | h1
      · exact hnt ht
      · exact g.first ht j h1 h2
    · obtain ⟨m, hkm, hm, hw', hi, hc, he, hx⟩ := hsp
      simp only
      rw [hi]
      exact .of_len hw' (by omega) (fun h => ⟨(hc h).1.symm, (hc h).2⟩) (fun h => absurd h hx) (fun h => ⟨he h, by omega, hm, hkm⟩)
        fun _ j h1 h2 => absurd h2 (Nat.not_lt.2 h1)

theorem Good.mem_writes {r : Row} {tol : Rat} {d : Nat → Rat} {fl : Nat → Nat → Bool} {k N : Nat} {res : Res}
    (g : Good r tol d fl k N res) {x : Int × Nat} : x ∈ res.writes ↔ x.1 < res.slice ∧ x.1 = (x.2 : Int) := by
  rw [g.writes_eq, mem_pairs, g.slice_eq, Int.toNat_natCast]
  exact ⟨fun ⟨h1, h2⟩ => ⟨by omega, h2⟩, fun ⟨h1, h2⟩ => ⟨by omega, h2⟩⟩

theorem sliceLen_of_le {a s : Int} (h0 : 0 ≤ s) (h : s ≤ a) : sliceLen a s = s.toNat := by
  rw [sliceLen, if_neg (not_lt.mpr h0), min_eq_left h]

theorem Good.slice_in {r : Row} {tol : Rat} {d : Nat → Rat} {fl : Nat → Nat → Bool} {k N : Nat} {res : Res}
    (g : Good r tol d fl k N res) {a : Int} (ha : (N : Int) ≤ a) :
    (0 ≤ res.slice ∧ res.slice ≤ a) ∧ sliceLen a res.slice = res.slice.toNat :=
  have h : 0 ≤ res.slice ∧ res.slice ≤ a := by
    rw [g.slice_eq]
    exact ⟨Int.natCast_nonneg _, (Int.ofNat_le.2 g.len_le).trans ha⟩
  ⟨h, sliceLen_of_le h.1 h.2⟩

/-! ### what `Row.ok` gives -/

theorem Aff.leFrom_sound {a b : Aff} {g : Nat} (h : a.leFrom b g = true) (n : Nat) (hn : g ≤ n) : a.eval n ≤ b.eval n := by
  simp only [Aff.leFrom, Bool.and_eq_true, decide_eq_true_eq] at h
  obtain ⟨hc, hg⟩ := h
  obtain ⟨e, rfl⟩ := Nat.exists_eq_add_of_le hn
  have h1 : (a.coef : Int) * (e : Int) ≤ (b.coef : Int) * (e : Int) :=
    Int.mul_le_mul_of_nonneg_right (Int.ofNat_le.mpr hc) (Int.natCast_nonneg e)
  simp only [Aff.eval, Nat.cast_add, mul_add] at hg ⊢
  omega

theorem Row.ok_parts {r : Row} (h : r.ok = true) :
    bodyOk r.lo r.sliceOff r.body false = true ∧ r.lo + r.sliceOff = 1 ∧
    ∀ n, r.guard ≤ n → r.hi.eval n - r.lo ≤ r.alloc.eval n ∧ r.hi.eval n - r.lo ≤ (n : Int) + 1 := by
  simp only [Row.ok, Bool.and_eq_true, decide_eq_true_eq] at h
  obtain ⟨⟨⟨⟨hb, hls⟩, ha⟩, h1⟩, -⟩ := h
  refine ⟨hb, hls, fun n hn => ?_⟩
  have hA := Aff.leFrom_sound ha n hn
  have h1' := Aff.leFrom_sound h1 n hn
  simp only [Aff.eval, Nat.cast_one, one_mul] at hA h1' ⊢
  omega

theorem budget_le {r : Row} (h : r.ok = true) {n : Nat} (hn : r.guard ≤ n) (hb : r.budget n ≠ 0) :
    (r.budget n : Int) ≤ r.alloc.eval n ∧ r.budget n ≤ n + 1 := by
  have := (Row.ok_parts h).2.2 n hn
  simp only [Row.budget] at hb ⊢
  omega

theorem run_good {r : Row} (h : r.ok = true) {n : Nat} (hb : r.budget n ≠ 0) (tol : Rat) (d : Nat → Rat) (fl : Nat → Nat → Bool) :
    Good r tol d fl 0 (r.budget n) (run r n tol d fl) := by
  rw [run, if_neg hb]
  exact loop_spec r (Row.ok_parts h).1 (Row.ok_parts h).2.1 tol d fl _ (r.budget n) 0 [] rfl (Nat.zero_add _)

theorem budget_code (r : Row) (hc : r.hi.coef = 1) (n : Nat) : r.budget n = ((n : Int) + r.code).toNat := by
  rw [Row.budget, Row.code, Aff.eval, hc, Nat.cast_one, Int.one_mul, Int.add_sub_assoc]

/-! ### a row of the shared shape IS the hand skeleton `Loop.runLoop` -/

theorem shape_body {r : Row} {b : Bool} {t : Test} (h : r.shape = some (b, t)) :
    (b = false ∧ ∃ off, r.body = [.write off, .brk t 0]) ∨ (b = true ∧ ∃ dec off, r.body = [.brk .flag dec, .write off, .brk t 0]) := by
  unfold Row.shape at h
  split at h
  · rename_i off t' hb
    simp only [Option.some.injEq, Prod.mk.injEq] at h
    exact .inl ⟨h.1.symm, off, by rw [hb, h.2]⟩
  · rename_i dec off t' hb
    simp only [Option.some.injEq, Prod.mk.injEq] at h
    exact .inr ⟨h.1.symm, dec, off, by rw [hb, h.2]⟩
  · simp at h

theorem enc_lt (r : Row) (t : Test) (tol : Rat) (d : Nat → Rat) (fl : Nat → Nat → Bool) (k : Nat) :
    r.enc t tol d fl k < tol ↔ t.fires (decide (d k < tol)) (fl k r.testPos) = true := by
  unfold Row.enc
  split <;> simp_all

/-- the tail of both shared shapes -/
theorem body_record_test {lo sl off : Int} (hls : lo + sl = 1) (hoff : lo + off = 0) (t : Test) (tol : Rat) (d : Nat → Rat)
    (fl : Nat → Nat → Bool) (k p : Nat) (w : List (Int × Nat)) :
    body tol d fl k (lo + (k : Int)) [.write off, .brk t 0] p w =
      if t.fires (decide (d k < tol)) (fl k (p + 1)) = true then
        (w ++ [((k : Int), k)], some ((k : Int) + 1 - sl, t.reason (decide (d k < tol))))
      else (w ++ [((k : Int), k)], none) := by
  have e1 : lo + (k : Int) + off = k := by omega
  have e2 : lo + (k : Int) - ((0 : Nat) : Int) = (k : Int) + 1 - sl := by omega
  simp only [body, e1, e2]

/-- the body of a row of the shared shape as the if-chain of `Loop.loopFrom`: [exit,] record, test -/
theorem body_shape {r : Row} {b : Bool} {t : Test} (hs : r.shape = some (b, t)) (hb : bodyOk r.lo r.sliceOff r.body false = true)
    (hls : r.lo + r.sliceOff = 1) (tol : Rat) (d : Nat → Rat) (fl : Nat → Nat → Bool) (k : Nat) (w : List (Int × Nat)) :
    body tol d fl k (r.lo + (k : Int)) r.body 0 w =
      if r.exitOf fl k = true then (w, some ((k : Int) - r.sliceOff, .early))
      else if t.fires (decide (d k < tol)) (fl k r.testPos) = true then
        (w ++ [((k : Int), k)], some ((k : Int) + 1 - r.sliceOff, t.reason (decide (d k < tol))))
      else (w ++ [((k : Int), k)], none) := by
  rcases shape_body hs with ⟨rfl, off, hbody⟩ | ⟨rfl, dec, off, hbody⟩
  · rw [hbody] at hb
    simp only [bodyOk, Bool.and_eq_true, decide_eq_true_eq] at hb
    simp only [Row.exitOf, Row.testPos, hs, hbody, List.length_cons, List.length_nil, Bool.false_eq_true, if_false]
    exact body_record_test hls hb.1.2 t tol d fl k 0 w
  · rw [hbody] at hb
    simp only [bodyOk, Bool.and_eq_true, decide_eq_true_eq] at hb
    have e0 : r.lo + (k : Int) - (dec : Int) = (k : Int) - r.sliceOff := by
      have := hb.1.1
      rw [if_neg Bool.false_ne_true] at this
      omega
    simp only [Row.exitOf, Row.testPos, hs, hbody, List.length_cons, List.length_nil]
    rw [body, fires_flag, reason_flag, e0, body_record_test hls hb.2.1.2]

/-- The stop reasons agree only for `x < tol` and `x < tol and e`: an `x < tol or e` that fires on `e` alone reports `early`, where
the skeleton fed with the outcomes of the test (`Row.enc`) says `converged`. -/
theorem loop_eq_skeleton {r : Row} {b : Bool} {t : Test} (hs : r.shape = some (b, t)) (hb : bodyOk r.lo r.sliceOff r.body false = true)
    (hls : r.lo + r.sliceOff = 1) (tol : Rat) (d : Nat → Rat) (fl : Nat → Nat → Bool) :
    ∀ (f k : Nat) (w : List (Int × Nat)),
      (loop r tol d fl f k w).slice = ((loopFrom (r.enc t tol d fl) (r.exitOf fl) tol f k).1 : Int) ∧
      ((loop r tol d fl f k w).stop = .exhausted ↔ (loopFrom (r.enc t tol d fl) (r.exitOf fl) tol f k).2 = .exhausted) ∧
      (t = .tol ∨ t = .tolAnd → (loop r tol d fl f k w).stop = (loopFrom (r.enc t tol d fl) (r.exitOf fl) tol f k).2) := by
  intro f
  induction f with
  | zero =>
    intro k w
    simp only [loop, loopFrom]
    exact ⟨by omega, by simp, by simp⟩
  | succ f ih =>
    intro k w
    rw [loop, loopFrom, body_shape hs hb hls]
    simp only [enc_lt]
    by_cases he : r.exitOf fl k = true
    · simp only [he, if_true]
      exact ⟨by omega, by simp, by simp⟩
    · simp only [he, Bool.false_eq_true, if_false]
      by_cases hf : t.fires (decide (d k < tol)) (fl k r.testPos) = true
      · simp only [hf, if_true]
        refine ⟨by push_cast; omega, by simp [reason_ne_exhausted], ?_⟩
        rintro (rfl | rfl) <;> rfl
      · simp only [hf, Bool.false_eq_true, if_false]
        exact ih (k + 1) _

theorem run_skeleton {r : Row} (h : r.ok = true) {b : Bool} {t : Test} (hs : r.shape = some (b, t)) {n : Nat} (hn : r.budget n ≠ 0)
    (tol : Rat) (d : Nat → Rat) (fl : Nat → Nat → Bool) :
    (run r n tol d fl).slice.toNat = (runLoop (r.budget n) tol (r.enc t tol d fl) (r.exitOf fl)).1 ∧
    ((run r n tol d fl).stop = .exhausted ↔ (runLoop (r.budget n) tol (r.enc t tol d fl) (r.exitOf fl)).2 = .exhausted) ∧
    (t = .tol ∨ t = .tolAnd → (run r n tol d fl).stop = (runLoop (r.budget n) tol (r.enc t tol d fl) (r.exitOf fl)).2) := by
  obtain ⟨hb, hls, -⟩ := Row.ok_parts h
  obtain ⟨h1, h2⟩ := loop_eq_skeleton hs hb hls tol d fl (r.budget n) 0 []
  rw [run, if_neg hn, runLoop, h1]
  exact ⟨Int.toNat_natCast _, h2⟩

theorem runLoop_enc_tol (r : Row) (budget : Nat) (tol : Rat) (d : Nat → Rat) (fl : Nat → Nat → Bool) :
    runLoop budget tol (r.enc .tol tol d fl) (r.exitOf fl) = runLoop budget tol d (r.exitOf fl) :=
  loopFrom_congr _ _ _ _ (fun k => by rw [enc_lt]; exact decide_eq_true_iff) _ _

end PbVerif.Lemmas.LoopTbl
