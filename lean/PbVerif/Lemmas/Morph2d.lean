import PbVerif.Lemmas.Morph
/-! C14, 2-D: the flat (2hr+1)×(2hc+1) morphology of `scipy.ndimage.grey_erosion / grey_dilation / grey_opening` with a
2-D `size`, as `pybaselines/two_d/morphological.py` uses it (`tophat`, `mor`, `imor`, `_avg_opening`).  A rectangular
matrix is read through its doubly reflected extension `ext2`: a row pass is a window operator along the second index,
transposition swaps the indices, so the two passes together are the minimum / maximum over the rectangle, a symmetric
neighbourhood, and the opening laws are those of `Window.lean`. -/
namespace PbVerif.Lemmas
open PbVerif.Morph

/-! ### window operators on the infinite grid -/
/-- dilation along a row (second index) and down a column (first index) -/
def DR (h : Nat) (G : Int → Int → Rat) : Int → Int → Rat := fun i j => winMax (G i) h j
def DC (h : Nat) (G : Int → Int → Rat) : Int → Int → Rat := fun i j => winMax (fun i' => G i' j) h i
def LeG (G G' : Int → Int → Rat) : Prop := ∀ i j, G i j ≤ G' i j

def D2 (hr hc : Nat) (G : Int → Int → Rat) : Int → Int → Rat := DC hr (DR hc G)

variable {R : Rat → Rat → Prop} {op : Rat → Rat → Rat}

/-- a pass along the rows (`hc`), then one down the columns (`hr`), the order of the model's `rowsThenCols`: `W2 max` is `D2`
by `rfl`, `W2 min` the erosion -/
def W2 (op : Rat → Rat → Rat) (hr hc : Nat) (G : Int → Int → Rat) : Int → Int → Rat :=
  fun i j => winFold op (fun i' => winFold op (G i') hc j) hr i

def Near2 (hr hc : Nat) (p q : Int × Int) : Prop := Near hr p.1 q.1 ∧ Near hc p.2 q.2

theorem Near2.symm {hr hc : Nat} (p q : Int × Int) (H : Near2 hr hc p q) : Near2 hr hc q p :=
  ⟨Near.symm _ _ H.1, Near.symm _ _ H.2⟩

theorem W2_iff (d : Dir R op) {hr hc : Nat} {G : Int → Int → Rat} {i j : Int} {c : Rat} :
    R c (W2 op hr hc G i j) ↔ ∀ a, Near hr i a → ∀ b, Near hc j b → R c (G a b) := by
  simp only [W2, winFold_iff d]

/-- the rectangle by offsets from its centre, the form in which `C14.erode2d_rect_min` / `dilate2d_rect_max` are stated -/
theorem W2_iff_offsets (d : Dir R op) {hr hc : Nat} {G : Int → Int → Rat} {i j : Int} {c : Rat} :
    R c (W2 op hr hc G i j) ↔
      ∀ a b : Int, -(hr:Int) ≤ a → a ≤ hr → -(hc:Int) ≤ b → b ≤ hc → R c (G (i + a) (j + b)) := by
  rw [W2_iff d]
  constructor
  · intro H a b ha1 ha2 hb1 hb2
    exact H _ (Near.add_iff.mpr ⟨ha1, ha2⟩) _ (Near.add_iff.mpr ⟨hb1, hb2⟩)
  · intro H a ha b hb
    obtain ⟨a, rfl⟩ : ∃ a', a = i + a' := ⟨a - i, by omega⟩
    obtain ⟨b, rfl⟩ : ∃ b', b = j + b' := ⟨b - j, by omega⟩
    exact H a b (Near.add_iff.mp ha).1 (Near.add_iff.mp ha).2 (Near.add_iff.mp hb).1 (Near.add_iff.mp hb).2

theorem W2_glb (d : Dir R op) (hr hc : Nat) :
    Glb R (Near2 hr hc) (fun g p => W2 op hr hc (fun i j => g (i, j)) p.1 p.2) :=
  fun _ _ _ => (W2_iff d).trans ⟨fun H q hq => H q.1 hq.1 q.2 hq.2, fun H a ha b hb => H (a, b) ⟨ha, hb⟩⟩

theorem W2_mono (d : Dir R op) (hr hc : Nat) {G G' : Int → Int → Rat} (H : ∀ i j, R (G i j) (G' i j)) (i j : Int) :
    R (W2 op hr hc G i j) (W2 op hr hc G' i j) :=
  (W2_glb d hr hc).mono d (g := fun p => G p.1 p.2) (g' := fun p => G' p.1 p.2) (fun p => H p.1 p.2) (i, j)

theorem D2_mono {G G' : Int → Int → Rat} (H : LeG G G') (hr hc : Nat) : LeG (D2 hr hc G) (D2 hr hc G') :=
  -- `R` is `≥` for `dirMax`, hence `G` and `G'` change places
  fun i j => W2_mono dirMax hr hc (G := G') (G' := G) H i j

theorem W2_opening_le (hr hc : Nat) (G : Int → Int → Rat) : LeG (D2 hr hc (W2 min hr hc G)) G :=
  fun i j => (W2_glb dirMin hr hc).adj dirMin (W2_glb dirMax hr hc) Near2.symm (fun p => G p.1 p.2) (i, j)

theorem W2_erode_opening (hr hc : Nat) (G : Int → Int → Rat) :
    W2 min hr hc (D2 hr hc (W2 min hr hc G)) = W2 min hr hc G := by
  funext i j
  exact congrFun ((W2_glb dirMin hr hc).EDE dirMin (W2_glb dirMax hr hc) dirMax Near2.symm (fun p => G p.1 p.2)) (i, j)

theorem W2_shift (d : Dir R op) (hr hc : Nat) (G : Int → Int → Rat) (c : Rat) :
    W2 op hr hc (fun i j => G i j + c) = fun i j => W2 op hr hc G i j + c := by
  funext i j
  exact (W2_glb d hr hc).shift d (fun p => G p.1 p.2) c (i, j)

/-! ### rectangular matrices -/
/-- an M×N matrix as a list of M rows of length N (what a 2-D NumPy array is) -/
def Rect (M N : Nat) (m : List (List Rat)) : Prop := m.length = M ∧ ∀ row ∈ m, row.length = N
def LeM (a b : List (List Rat)) : Prop :=
  a.length = b.length ∧ ∀ i, i < a.length → LeL (a.getD i []) (b.getD i [])
def shiftM (c : Rat) (m : List (List Rat)) : List (List Rat) := m.map fun row => row.map (· + c)
/-- the doubly reflected extension: `mode='reflect'` on both axes -/
def ext2 (m : List (List Rat)) (i j : Int) : Rat := ext (m.getD (reflIdx m.length i) []) j
theorem Rect.row {M N : Nat} {m : List (List Rat)} (hm : Rect M N m) (i : Nat) (hi : i < M) :
    (m.getD i []).length = N :=
  hm.2 _ (getD_mem [] (hm.1 ▸ hi))

theorem ext2_of_lt {M N : Nat} {m : List (List Rat)} (hm : Rect M N m) (i j : Nat) (hi : i < M) (hj : j < N) :
    ext2 m (i : Int) (j : Int) = (m.getD i []).getD j 0 := by
  unfold ext2
  rw [hm.1, reflIdx_of_lt M i hi]
  exact ext_of_lt _ j (by rw [hm.row i hi]; exact hj)

theorem ext2_eq {M N : Nat} {m : List (List Rat)} (hm : Rect M N m) (hM : 0 < M) (i j : Int) :
    ext2 m i j = (m.getD (reflIdx M i) []).getD (reflIdx N j) 0 := by
  unfold ext2 ext
  rw [hm.1, hm.row _ (reflIdx_lt M hM i)]

theorem rect_ext {M N : Nat} {a b : List (List Rat)} (ha : Rect M N a) (hb : Rect M N b)
    (H : ext2 a = ext2 b) : a = b :=
  ext_getD [] (ha.1.trans hb.1.symm) fun i hi =>
    have hi' : i < M := ha.1 ▸ hi
    ext_getD 0 ((ha.row i hi').trans (hb.row i hi').symm) fun j hj => by
      have hj' : j < N := ha.row i hi' ▸ hj
      rw [← ext2_of_lt ha i j hi' hj', ← ext2_of_lt hb i j hi' hj', H]

theorem LeM_of_LeG {M N : Nat} {a b : List (List Rat)} (ha : Rect M N a) (hb : Rect M N b)
    (H : LeG (ext2 a) (ext2 b)) : LeM a b := by
  refine ⟨ha.1.trans hb.1.symm, ?_⟩
  intro i hi
  have hi' : i < M := ha.1 ▸ hi
  refine ⟨(ha.row i hi').trans (hb.row i hi').symm, ?_⟩
  intro j hj
  have hj' : j < N := (ha.row i hi') ▸ hj
  rw [← ext2_of_lt ha i j hi' hj', ← ext2_of_lt hb i j hi' hj']
  exact H _ _

theorem LeM_refl (a : List (List Rat)) : LeM a a := ⟨rfl, fun _ _ => LeL_refl _⟩

theorem LeM_trans {a b c : List (List Rat)} (h1 : LeM a b) (h2 : LeM b c) : LeM a c :=
  ⟨h1.1.trans h2.1, fun i hi => LeL_trans (h1.2 i hi) (h2.2 i (h1.1 ▸ hi))⟩

/-! ### the primitives: row pass, transposition, `zip2` -/
variable {M N : Nat} {m : List (List Rat)}

theorem rect_mapRows (fc : List Rat → List Rat) (hf : LenPres fc) (hm : Rect M N m) : Rect M N (m.map fc) := by
  refine ⟨by rw [List.length_map, hm.1], fun row hrow => ?_⟩
  obtain ⟨r, hr, rfl⟩ := List.mem_map.mp hrow
  rw [hf]; exact hm.2 r hr

theorem ext2_mapRows (fc : List Rat → List Rat) (W : (Int → Rat) → Int → Rat)
    (hf : Lifts fc W) (hm : Rect M N m) (hM : 0 < M) (hN : 0 < N) :
    ext2 (m.map fc) = fun i j => W (ext2 m i) j := by
  funext i j
  have hi := reflIdx_lt M hM i
  unfold ext2
  rw [List.length_map, hm.1, getD_map_of_lt fc [] [] (by rw [hm.1]; exact hi), hf.2 _ (by rw [hm.row _ hi]; exact hN)]

theorem rect_shiftM (c : Rat) (hm : Rect M N m) : Rect M N (shiftM c m) :=
  rect_mapRows _ (fun _ => List.length_map _) hm

theorem ext2_shiftM (c : Rat) (hm : Rect M N m) (hM : 0 < M) (hN : 0 < N) :
    ext2 (shiftM c m) = fun i j => ext2 m i j + c :=
  ext2_mapRows _ (fun X k => X k + c) ⟨fun _ => List.length_map _, fun l hl => ext_shift l hl c⟩ hm hM hN

theorem transpose_eq (hm : Rect M N m) (hM : 0 < M) :
    transpose m = (List.range N).map fun j => m.map fun row => row.getD j 0 := by
  obtain ⟨hl, hr⟩ := hm
  cases m with
  | nil => exact absurd hl (Nat.ne_of_lt hM)
  | cons r rest => rw [← hr r List.mem_cons_self]; rfl

theorem rect_transpose (hm : Rect M N m) (hM : 0 < M) : Rect N M (transpose m) := by
  rw [transpose_eq hm hM]
  refine ⟨by rw [List.length_map, List.length_range], fun row hrow => ?_⟩
  obtain ⟨j, _, rfl⟩ := List.mem_map.mp hrow
  rw [List.length_map, hm.1]

theorem ext2_transpose (hm : Rect M N m) (hM : 0 < M) (hN : 0 < N) :
    ext2 (transpose m) = fun i j => ext2 m j i := by
  funext i j
  rw [ext2_eq (rect_transpose hm hM) hN, ext2_eq hm hM, transpose_eq hm hM, getD_range_map _ [] (reflIdx_lt N hN i)]
  exact getD_map_of_lt _ [] 0 (hm.1.symm ▸ reflIdx_lt M hM j)

theorem transpose_transpose {M N : Nat} {m : List (List Rat)} (hm : Rect M N m) (hM : 0 < M) (hN : 0 < N) :
    transpose (transpose m) = m :=
  have hT := rect_transpose hm hM
  rect_ext (rect_transpose hT hN) hm (by rw [ext2_transpose hT hN hM, ext2_transpose hm hM hN])

theorem rect_zip2 (f : Rat → Rat → Rat) {a b : List (List Rat)} (ha : Rect M N a) (hb : Rect M N b) :
    Rect M N (zip2 f a b) := by
  unfold zip2
  refine ⟨by simp [ha.1, hb.1], ?_⟩
  intro row hrow
  obtain ⟨i, hi, rfl⟩ := List.mem_iff_getElem.mp hrow
  rw [List.getElem_zipWith, List.length_zipWith, ha.2 _ (List.getElem_mem _), hb.2 _ (List.getElem_mem _)]
  omega

theorem ext2_zip2 (f : Rat → Rat → Rat) {a b : List (List Rat)} (ha : Rect M N a) (hb : Rect M N b)
    (hM : 0 < M) (hN : 0 < N) : ext2 (zip2 f a b) = fun i j => f (ext2 a i j) (ext2 b i j) := by
  funext i j
  have hi := reflIdx_lt M hM i
  have hj := reflIdx_lt N hN j
  rw [ext2_eq (rect_zip2 f ha hb) hM, ext2_eq ha hM, ext2_eq hb hM]
  unfold zip2
  rw [getD_zipWith_of_lt _ [] [] [] (by rw [ha.1]; exact hi) (by rw [hb.1]; exact hi),
    getD_zipWith_of_lt _ 0 0 0 (by rw [ha.row _ hi]; exact hj) (by rw [hb.row _ hi]; exact hj)]

theorem zip2_min_le_left {a b : List (List Rat)} (ha : Rect M N a) (hb : Rect M N b) (hM : 0 < M) (hN : 0 < N) :
    LeM (zip2 min a b) a :=
  LeM_of_LeG (rect_zip2 min ha hb) ha (by rw [ext2_zip2 min ha hb hM hN]; exact fun _ _ => Std.min_le_left)

/-- the 2-D twin of `Lifts`, with the shift law of `Φ` carried along.  The operators of the model are built from the two
passes by composition and `zip2`, so their shapes and shift laws are read off and the lists are touched once per primitive. -/
structure Lifts2 (F : List (List Rat) → List (List Rat)) (Φ : (Int → Int → Rat) → Int → Int → Rat) : Prop where
  app : ∀ {M N : Nat} {m : List (List Rat)}, Rect M N m → 0 < M → 0 < N → Rect M N (F m) ∧ ext2 (F m) = Φ (ext2 m)
  add : ∀ (c : Rat) (X : Int → Int → Rat), Φ (fun i j => X i j + c) = fun i j => Φ X i j + c

section lifts2
variable {F G : List (List Rat) → List (List Rat)} {Φ Ψ : (Int → Int → Rat) → Int → Int → Rat}

theorem Lifts2.rect (h : Lifts2 F Φ) (hm : Rect M N m) (hM : 0 < M) (hN : 0 < N) : Rect M N (F m) := (h.app hm hM hN).1

theorem Lifts2.ext2 (h : Lifts2 F Φ) (hm : Rect M N m) (hM : 0 < M) (hN : 0 < N) : ext2 (F m) = Φ (ext2 m) :=
  (h.app hm hM hN).2

theorem Lifts2.comp (hF : Lifts2 F Φ) (hG : Lifts2 G Ψ) : Lifts2 (fun m => G (F m)) (fun X => Ψ (Φ X)) where
  app hm hM hN := ⟨hG.rect (hF.rect hm hM hN) hM hN, by rw [hG.ext2 (hF.rect hm hM hN) hM hN, hF.ext2 hm hM hN]⟩
  add c X := by rw [hF.add, hG.add]

theorem Lifts2.zip2 (f : Rat → Rat → Rat) (hf : ∀ c x y, f (x + c) (y + c) = f x y + c) (hF : Lifts2 F Φ)
    (hG : Lifts2 G Ψ) : Lifts2 (fun m => zip2 f (F m) (G m)) (fun X i j => f (Φ X i j) (Ψ X i j)) where
  app hm hM hN := ⟨rect_zip2 f (hF.rect hm hM hN) (hG.rect hm hM hN), by
    rw [ext2_zip2 f (hF.rect hm hM hN) (hG.rect hm hM hN) hM hN, hF.ext2 hm hM hN, hG.ext2 hm hM hN]⟩
  add c X := by funext i j; rw [hF.add, hG.add]; exact hf c _ _

theorem Lifts2.shift (h : Lifts2 F Φ) (c : Rat) (hm : Rect M N m) (hM : 0 < M) (hN : 0 < N) :
    F (shiftM c m) = shiftM c (F m) := by
  have hF := h.rect hm hM hN
  apply rect_ext (h.rect (rect_shiftM c hm) hM hN) (rect_shiftM c hF)
  rw [h.ext2 (rect_shiftM c hm) hM hN, ext2_shiftM c hm hM hN, h.add, ext2_shiftM c hF hM hN, h.ext2 hm hM hN]

end lifts2

/-! ### the 2-D operators of the model: `erode2d` / `dilate2d hr hc` unfold to
`rowsThenCols (winMap op hr) (winMap op hc)` with `op` = `min` / `max` -/

theorem lifts2_win2d (d : Dir R op) (hr hc : Nat) :
    Lifts2 (rowsThenCols (winMap op hr) (winMap op hc)) (W2 op hr hc) where
  app {M N m} hm hM hN := by
    have h1 := rect_mapRows _ (winMap_length op hc) hm
    have h2 := rect_transpose h1 hM
    have h3 := rect_mapRows _ (winMap_length op hr) h2
    refine ⟨rect_transpose h3 hN, ?_⟩
    unfold rowsThenCols
    rw [ext2_transpose h3 hN hM, ext2_mapRows _ _ (winMap_lifts d hr) h2 hN hM, ext2_transpose h1 hM hN,
      ext2_mapRows _ _ (winMap_lifts d hc) hm hM hN]
    rfl
  add c X := W2_shift d hr hc X c

theorem lifts2_erode2d (hr hc : Nat) : Lifts2 (erode2d hr hc) (W2 min hr hc) := lifts2_win2d dirMin hr hc
theorem lifts2_dilate2d (hr hc : Nat) : Lifts2 (dilate2d hr hc) (D2 hr hc) := lifts2_win2d dirMax hr hc

theorem lifts2_opening2d (hr hc : Nat) : Lifts2 (opening2d hr hc) (fun X => D2 hr hc (W2 min hr hc X)) :=
  (lifts2_erode2d hr hc).comp (lifts2_dilate2d hr hc)

theorem lifts2_avgOpening2d (hr hc : Nat) : ∃ Φ, Lifts2 (avgOpening2d hr hc) Φ :=
  ⟨_, ((lifts2_opening2d hr hc).comp (lifts2_dilate2d hr hc)).zip2 _ (by intro c x y; grind)
    ((lifts2_opening2d hr hc).comp (lifts2_erode2d hr hc))⟩

theorem lifts2_mor2d (hr hc : Nat) : ∃ Φ, Lifts2 (mor2d hr hc) Φ :=
  let ⟨_, h⟩ := lifts2_avgOpening2d hr hc
  ⟨_, (lifts2_opening2d hr hc).zip2 min (by intro c x y; grind) h⟩

theorem erode2d_mono (hr hc : Nat) {a b : List (List Rat)} (ha : Rect M N a) (hb : Rect M N b) (hM : 0 < M)
    (hN : 0 < N) (H : LeG (ext2 a) (ext2 b)) : LeG (ext2 (erode2d hr hc a)) (ext2 (erode2d hr hc b)) := by
  rw [(lifts2_erode2d hr hc).ext2 ha hM hN, (lifts2_erode2d hr hc).ext2 hb hM hN]; exact W2_mono dirMin hr hc H

theorem opening2d_le (hr hc : Nat) (hm : Rect M N m) (hM : 0 < M) (hN : 0 < N) : LeM (opening2d hr hc m) m := by
  apply LeM_of_LeG ((lifts2_opening2d hr hc).rect hm hM hN) hm
  rw [(lifts2_opening2d hr hc).ext2 hm hM hN]
  exact W2_opening_le hr hc _

theorem rect_imorIter2d (hr hc : Nat) (hm : Rect M N m) (hM : 0 < M) (hN : 0 < N) (k : Nat) :
    Rect M N (imorIter2d hr hc m k) := by
  obtain ⟨_, h⟩ := lifts2_avgOpening2d hr hc
  induction k with
  | zero => exact hm
  | succ k ih => exact rect_zip2 _ hm (h.rect ih hM hN)

theorem mor2d_shift (hr hc : Nat) (c : Rat) (hm : Rect M N m) (hM : 0 < M) (hN : 0 < N) :
    mor2d hr hc (shiftM c m) = shiftM c (mor2d hr hc m) :=
  let ⟨_, h⟩ := lifts2_mor2d hr hc
  h.shift c hm hM hN

theorem mor2d_le (hr hc : Nat) (hm : Rect M N m) (hM : 0 < M) (hN : 0 < N) : LeM (mor2d hr hc m) m :=
  let ⟨_, h⟩ := lifts2_avgOpening2d hr hc
  LeM_trans (zip2_min_le_left ((lifts2_opening2d hr hc).rect hm hM hN) (h.rect hm hM hN) hM hN) (opening2d_le hr hc hm hM hN)

theorem imor2d_le (hr hc : Nat) (hm : Rect M N m) (hM : 0 < M) (hN : 0 < N) (k : Nat) :
    LeM (imorIter2d hr hc m k) m := by
  cases k with
  | zero => exact LeM_refl m
  | succ k =>
    obtain ⟨_, h⟩ := lifts2_avgOpening2d hr hc
    exact zip2_min_le_left hm (h.rect (rect_imorIter2d hr hc hm hM hN k) hM hN) hM hN

end PbVerif.Lemmas
