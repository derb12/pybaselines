import PbVerif.Model.Kernels
import PbVerif.Model.Kernels2
/-! Small facts under C05: a NumPy slice with raw bounds `0 ≤ lo ≤ hi ≤ n` is not clipped; the half window that
`_directional_min_moving_avg` clips for itself fits the data; its trace and that of `_rolling_std` reach the last element. -/
namespace PbVerif.Lemmas
open PbVerif.Kernels

theorem normIdx_nonneg_le (i : Int) (n : Nat) : 0 ≤ normIdx i n ∧ normIdx i n ≤ n := by
  simp only [normIdx]
  split <;> omega

theorem normIdx_of_inb {i : Int} {n : Nat} (h0 : 0 ≤ i) (h1 : i ≤ n) : normIdx i n = i := by
  simp only [normIdx, if_neg (Int.not_lt.2 h0), Int.min_eq_left h1, Int.max_eq_right h0]

theorem sliceLen_of_inb (lo hi : Int) (n : Nat) (h0 : 0 ≤ lo) (h1 : lo ≤ hi) (h2 : hi ≤ n) :
    (sliceLen lo hi n : Int) = hi - lo := by
  rw [sliceLen, normIdx_of_inb h0 (by omega), normIdx_of_inb (by omega) h2]
  omega

theorem sliceLen_congr (lo hi : Int) (n m : Nat) (h : n = m) : sliceLen lo hi n = sliceLen lo hi m := by
  rw [h]

theorem clipHw_eq_min (dataLen hw : Nat) : clipHw dataLen hw = min hw ((dataLen - 1) / 2) := by
  unfold clipHw
  split <;> omega

theorem clipHw_le (dataLen hw : Nat) (h : 1 ≤ dataLen) : 2 * clipHw dataLen hw + 1 ≤ dataLen := by
  rw [clipHw_eq_min]
  omega

/-- coverage: with `half_window = 1` the trace of `_directional_min_moving_avg` reads the last element `y[L-1]`
(`L = 3`: growing window, `y[2i]`, `i = 1`; `L ≥ 4`: full window, `y[i + hw]`, `i = L - 2`) -/
theorem dirMinMovAvg_touches_all (dataLen : Nat) (h : 3 ≤ dataLen) :
    ((dataLen - 1 : Nat) : Int) ∈ dirMinMovAvgIdx dataLen 1 := by
  have hc : clipHw dataLen 1 = 1 := by rw [clipHw_eq_min]; omega
  unfold dirMinMovAvgIdx
  rw [hc]
  simp only [List.mem_append, List.mem_flatMap, List.mem_range, List.mem_cons,
    List.not_mem_nil, or_false]
  by_cases h4 : 4 ≤ dataLen
  · refine Or.inl (Or.inr ⟨dataLen - 4, by omega, Or.inl (by omega)⟩)
  · refine Or.inl (Or.inl (Or.inr ⟨0, by omega, Or.inr (Or.inl (by omega))⟩))

/-- coverage: `_rolling_std` reads the last element of the padded data (`N ≥ 2`: full window, `data[j + hw]`, `j = hw + N - 1`;
`N = 1`: `data[2·hw]` of the first window, or `data[0]`) -/
theorem rollingStdData_touches_last (n hw : Nat) (h : 1 ≤ n) :
    ((n + 2 * hw - 1 : Nat) : Int) ∈ rollingStdDataIdx (n + 2 * hw) hw := by
  unfold rollingStdDataIdx
  simp only [List.mem_append, List.mem_flatMap, List.mem_map, List.mem_range, List.mem_cons,
    List.not_mem_nil, or_false]
  by_cases h2 : 2 ≤ n
  · refine Or.inl (Or.inr ⟨n - 2, by omega, Or.inr (by omega)⟩)
  · by_cases h0 : hw = 0
    · exact Or.inl (Or.inl (Or.inl (by omega)))
    · refine Or.inl (Or.inl (Or.inr ⟨2 * hw - 1, by omega, by omega⟩))

theorem paddedLen_eq_some {n : Nat} {hw L : Int} :
    paddedLen n hw = some L ↔ 0 ≤ hw ∧ 1 ≤ n ∧ L = (n : Int) + 2 * hw := by
  unfold paddedLen
  split
  · simp only [reduceCtorEq, false_iff]; omega
  · simp only [Option.some.injEq]; omega


end PbVerif.Lemmas
