import PbVerif.Model.LoopS
import Mathlib.Logic.Function.Iterate
/-! What the stateful loops of `Model/LoopS` hand back (C06): the single-loop skeleton decides like `Loop.runLoop` and returns
iterates, brpls a baseline solved with the returned weights, jbcd the solve pair of its last pass. -/
namespace PbVerif.Lemmas
open PbVerif.Loop

section single
variable {S B : Type} (solve : S → B) (rule : B → Nat → S → S × Bool × Rat) (tol : Rat) (s0 : S)

/-- the recorded difference / early-exit flag of pass `j` along the iterates -/
def dOf (j : Nat) : Rat := (rule (solve (stateSeq solve rule s0 j)) j (stateSeq solve rule s0 j)).2.2
def exitOf (j : Nat) : Bool := (rule (solve (stateSeq solve rule s0 j)) j (stateSeq solve rule s0 j)).2.1

theorem runS_spec (r k : Nat) (s : S) (b0 : Option B) (hs : s = stateSeq solve rule s0 k)
    (hb0 : 0 < k → b0 = some (solve (stateSeq solve rule s0 (k - 1)))) :
    let res := runS solve rule tol r k s b0
    (res.len, res.stop) = loopFrom (dOf solve rule s0) (exitOf solve rule s0) tol r k ∧
    (res.stop = .converged → k + 1 ≤ res.len ∧ res.state = stateSeq solve rule s0 (res.len - 1) ∧ res.base = some (solve res.state)) ∧
    (res.stop = .early → res.state = stateSeq solve rule s0 res.len ∧ res.base = some (solve res.state)) ∧
    (res.stop = .exhausted → res.len = k + r ∧ res.state = stateSeq solve rule s0 (k + r) ∧
      (0 < k + r → res.base = some (solve (stateSeq solve rule s0 (k + r - 1))))) := by
  fun_induction runS solve rule tol r k s b0 with
  | case1 k s b =>
    exact ⟨rfl, nofun, nofun, fun _ => ⟨rfl, hs, hb0⟩⟩
  | case2 r k s x b o he =>
    subst hs
    refine ⟨?_, nofun, fun _ => ⟨rfl, rfl⟩, nofun⟩
    rw [loopFrom, exitOf, if_pos he]
  | case3 r k s x b o he hc =>
    subst hs
    refine ⟨?_, fun _ => ⟨Nat.le_refl _, rfl, rfl⟩, nofun, nofun⟩
    rw [loopFrom, exitOf, if_neg he, dOf, if_pos hc]
  | case4 r k s x b o he hc ih =>
    subst hs
    obtain ⟨h0, h1, h2, h3⟩ := ih rfl (fun _ => rfl)
    rw [Nat.add_right_comm k 1 r] at h3
    refine ⟨?_, fun h => ?_, h2, h3⟩
    · rw [loopFrom, exitOf, if_neg he, dOf, if_neg hc]; exact h0
    · obtain ⟨a, b⟩ := h1 h; exact ⟨Nat.le_of_succ_le a, b⟩

theorem run_spec (budget : Nat) :
    let R := run solve rule tol budget s0
    (R.len, R.stop) = runLoop budget tol (dOf solve rule s0) (exitOf solve rule s0) ∧
    (R.stop = .converged → 1 ≤ R.len ∧ R.state = stateSeq solve rule s0 (R.len - 1) ∧ R.base = some (solve R.state)) ∧
    (R.stop = .early → R.state = stateSeq solve rule s0 R.len ∧ R.base = some (solve R.state)) ∧
    (R.stop = .exhausted → R.len = budget ∧ R.state = stateSeq solve rule s0 budget ∧
      (0 < budget → R.base = some (solve (stateSeq solve rule s0 (budget - 1))))) := by
  have h := runS_spec solve rule tol s0 budget 0 s0 none rfl nofun
  simp only [Nat.zero_add] at h
  exact h

end single

section brpls
variable {W B P : Type} (solve : W → B) (rule : B → P → W × Bool) (conv : Option B → B → Bool)

/-- the returned baseline, if it is the result of a solve, was solved with `baseline_weights` -/
def BrOk (s : BrSt W B) : Prop := s.b = none ∨ s.b = some (solve s.bw)

/-- `h0`: where `if i == 0 and j == 0: baseline = new_baseline` fires, `weight_array` is still the initial `baseline_weights` -/
theorem brInner_inv (beta : P) (i r j : Nat) (s : BrSt W B) (h0 : i = 0 ∧ j = 0 → s.wa = s.bw) :
    (BrOk solve s → BrOk solve (brInner solve rule conv beta i r j s).1) ∧
    (s.b.isSome → (brInner solve rule conv beta i r j s).1.b.isSome) ∧
    (i = 0 ∧ j = 0 → (rule (solve s.wa) beta).2 = false → (brInner solve rule conv beta i r j s).1.b.isSome) := by
  fun_induction brInner solve rule conv beta i r j s with
  | case1 r j s nb o he => exact ⟨id, id, fun _ h => by simp [nb, o, h] at he⟩
  | case2 r j s nb o he hc =>
    by_cases hij : i = 0 ∧ j = 0
    · simp only [hij, and_self, if_true]
      exact ⟨fun _ => .inr (by simp [nb, h0 hij]), fun _ => rfl, fun _ _ => rfl⟩
    · simp only [hij, if_false]
      exact ⟨id, id, fun h => h.elim⟩
  | case3 j s nb o he hc s' => exact ⟨fun _ => .inr rfl, fun _ => rfl, fun _ _ => rfl⟩
  | case4 j s nb o he hc s' r' ih =>
    have := ih (fun h => absurd h.2 (Nat.succ_ne_zero j))
    exact ⟨fun _ => this.1 (.inr rfl), fun _ => this.2.1 rfl, fun _ _ => this.2.1 rfl⟩

variable (crit : P → W → Bool → Bool) (nextBeta : W → P) (maxIter : Nat)

theorem brOuter_inv (R i : Nat) (beta : P) (s : BrSt W B) (h0 : i = 0 → s.wa = s.bw) :
    (BrOk solve s → BrOk solve (brOuter solve rule conv crit nextBeta maxIter R i beta s)) ∧
    (s.b.isSome → (brOuter solve rule conv crit nextBeta maxIter R i beta s).b.isSome) ∧
    (i = 0 → (rule (solve s.wa) beta).2 = false → (brOuter solve rule conv crit nextBeta maxIter R i beta s).b.isSome) := by
  fun_induction brOuter solve rule conv crit nextBeta maxIter R i beta s with
  | case1 R i beta s q s2 hc =>
    have hI := brInner_inv solve rule conv beta i maxIter 0 s (fun h => h0 h.1)
    exact ⟨hI.1, hI.2.1, fun hi he => hI.2.2 ⟨hi, rfl⟩ he⟩
  | case2 i beta s q s2 hc =>
    have hI := brInner_inv solve rule conv beta i maxIter 0 s (fun h => h0 h.1)
    exact ⟨hI.1, hI.2.1, fun hi he => hI.2.2 ⟨hi, rfl⟩ he⟩
  | case3 i beta s q s2 hc R' ih =>
    have hI := brInner_inv solve rule conv beta i maxIter 0 s (fun h => h0 h.1)
    have := ih (fun h => absurd h (Nat.succ_ne_zero i))
    exact ⟨fun h => this.1 (hI.1 h), fun h => this.2.1 (hI.2.1 h), fun hi he => this.2.1 (hI.2.2 ⟨hi, rfl⟩ he)⟩

end brpls

section jbcd
variable {Sg V P : Type} (solveS : P → V → Sg) (solveB : P → Sg → V) (crit : Sg → Sg → V → V → Bool) (gm bm : P → P)

/-- `hl`: with no pass left `last` is handed back as it is, so it must already be the solve pair of pass `k - 1` -/
theorem jbRun_spec (g0 b0 : P) (r k : Nat) (s : JbSt Sg V P) (last : Option (V × Sg × P × P))
    (hg : s.gamma = gm^[k] g0) (hb : s.beta = bm^[k] b0)
    (hl : 0 < r ∨ ∃ v sg, last = some (v, sg, gm^[k - 1] g0, bm^[k - 1] b0) ∧ v = solveB (bm^[k - 1] b0) sg) :
    let res := jbRun solveS solveB crit gm bm r k s last
    k ≤ res.2.1 ∧ res.2.1 ≤ k + r ∧ (0 < r → k + 1 ≤ res.2.1) ∧
    ∃ v sg, res.1 = some (v, sg, gm^[res.2.1 - 1] g0, bm^[res.2.1 - 1] b0) ∧ v = solveB (bm^[res.2.1 - 1] b0) sg := by
  fun_induction jbRun solveS solveB crit gm bm r k s last with
  | case1 k s last =>
    exact ⟨Nat.le_refl _, Nat.le_refl _, fun h => absurd h (Nat.lt_irrefl 0), hl.resolve_left (Nat.lt_irrefl 0)⟩
  | case2 r k s x sg v hc =>
    exact ⟨Nat.le_succ k, by show k + 1 ≤ k + (r + 1); omega, fun _ => Nat.le_refl _, v, sg,
      by rw [Nat.add_sub_cancel, ← hg, ← hb], by rw [Nat.add_sub_cancel, ← hb]⟩
  | case3 r k s x sg v hc ih =>
    obtain ⟨a1, a2, -, a4⟩ := ih (by rw [Function.iterate_succ_apply', ← hg]) (by rw [Function.iterate_succ_apply', ← hb])
      (.inr ⟨v, sg, by rw [Nat.add_sub_cancel, ← hg, ← hb], by rw [Nat.add_sub_cancel, ← hb]⟩)
    exact ⟨by omega, by omega, fun _ => by omega, a4⟩

end jbcd

end PbVerif.Lemmas
