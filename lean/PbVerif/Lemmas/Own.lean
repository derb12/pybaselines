import PbVerif.Model.Own
/-! The ownership calculus of `Model/Own.lean` (C13).  A step changes the version of no buffer but the one its write targets
(`versionOf_step`); `own_sound` is the instance "no write targets a caller's buffer". -/
namespace PbVerif.Lemmas
open PbVerif.Own

private theorem find_map_bump_ne (ver : List (Buf × Nat)) (b c : Buf) (h : b ≠ c) :
    ((ver.map fun p => if p.1 == b then (p.1, p.2 + 1) else p).find? (·.1 == c)).map (·.2)
      = (ver.find? (·.1 == c)).map (·.2) := by
  induction ver with
  | nil => rfl
  | cons p rest ih =>
    rw [List.map_cons, List.find?_cons, List.find?_cons]
    by_cases hb : p.1 = b
    · have hc : (b == c) = false := beq_false_of_ne h
      simpa only [hb, beq_self_eq_true, if_true, hc] using ih
    · rw [if_neg (by simpa using hb)]
      cases p.1 == c
      · exact ih
      · rfl

theorem versionOf_bump_ne (s : St) (b c : Buf) (h : b ≠ c) :
    versionOf { s with version := bump s.version b } c = versionOf s c := by
  refine congrArg (Option.getD · 0) (?_ : ((bump s.version b).find? (·.1 == c)).map (·.2) = _)
  unfold bump
  split
  · exact find_map_bump_ne s.version b c h
  · rw [List.find?_cons, beq_false_of_ne h]

theorem versionOf_step (s : St) (op : Op) (c : Buf)
    (h : ∀ t, op = .write t → s.raised = false → lookup s t ≠ some c) : versionOf (step s op) c = versionOf s c := by
  cases op with
  | view src dst => simp only [step]; split; rfl; split <;> rfl
  | newBuf dst => simp only [step]; split <;> rfl
  | raise => rfl
  | write t =>
    simp only [step]
    cases hr : s.raised
    · simp only [Bool.false_eq_true, if_false]
      cases hl : lookup s t with
      | none => rfl
      | some b => exact versionOf_bump_ne s b c fun e => h t rfl hr (e ▸ hl)
    · rfl

theorem own_sound (s : St) (prog : List Op) (h : writesFresh s prog = true) (k : Nat) :
    versionOf (run s prog) (.user k) = versionOf s (.user k) := by
  induction prog generalizing s with
  | nil => rfl
  | cons op rest ih =>
    simp only [writesFresh, Bool.and_eq_true] at h
    rw [run, List.foldl_cons, ← run, ih _ h.2]
    -- the discipline says exactly that no write of this step targets a caller's buffer
    refine versionOf_step s op _ fun t ht hr hl => ?_
    subst ht
    simp [hr, hl] at h

end PbVerif.Lemmas
