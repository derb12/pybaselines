import PbVerif.Model.Banded
/-! M4 (second part): assembly of the Whittaker linear systems in banded storage as `whittaker.py`
builds them, the matrices the documentation states, denotations of band arrays, and exact residuals.
Over `Rat` (every finite double is a rational).  Import-free. -/
namespace PbVerif.Whittaker
open PbVerif.Banded

def sumL (l : List Rat) : Rat := l.foldl (· + ·) 0

/-- the integer bands of D'D as rationals -/
def bandsQ (n d : Nat) (lowerOnly : Bool) : List (List Rat) := (specRows n d lowerOnly).map fun r => r.map fun (v : Int) => (v : Rat)

def scale (c : Rat) (ab : List (List Rat)) : List (List Rat) := ab.map fun r => r.map (c * ·)
def addB (a b : List (List Rat)) : List (List Rat) := List.zipWith (List.zipWith (· + ·)) a b
/-- multiply column j by `w[j]` (`bands * weight_array`) -/
def colScale (ab : List (List Rat)) (w : List Rat) : List (List Rat) := ab.map fun r => List.zipWith (· * ·) r w
/-- add a vector to one row (`lhs[main_diag_idx] += w`) -/
def addRow (ab : List (List Rat)) (k : Nat) (w : List Rat) : List (List Rat) := ab.modify k fun r => List.zipWith (· + ·) r w
/-- add a scalar to one row -/
def addRowC (ab : List (List Rat)) (k : Nat) (c : Rat) : List (List Rat) := ab.modify k fun r => r.map (· + c)
/-- zero rows on top and bottom (`_pad_diagonals(…, lower_only=False)`) / bottom only -/
def padFull (ab : List (List Rat)) (p n : Nat) : List (List Rat) :=
  List.replicate p (List.replicate n 0) ++ ab ++ List.replicate p (List.replicate n 0)
def padLower (ab : List (List Rat)) (p n : Nat) : List (List Rat) := ab ++ List.replicate p (List.replicate n 0)

def shiftRightQ (s : Nat) (row : List Rat) : List Rat := List.replicate (min s row.length) 0 ++ row.take (row.length - s)
def shiftLeftQ (s : Nat) (row : List Rat) : List Rat := row.drop s ++ List.replicate (min s row.length) 0

/-- `_shift_rows(matrix, u, l)`: row r < u is shifted right by u − r; the t-th row from the bottom
(t = 1 … l) is shifted left by l − t + 1 -/
def shiftRows (ab : List (List Rat)) (u l : Nat) : List (List Rat) :=
  ab.zipIdx.map fun (row, r) =>
    if r < u then shiftRightQ (u - r) row
    else if ab.length - l ≤ r then shiftLeftQ (r + 1 - (ab.length - l)) row
    else row

/-! ### denotations -/
/-- LAPACK lower storage of a symmetric matrix: `A[i,j] = ab[|i−j|, min(i,j)]` -/
def denLower (ab : List (List Rat)) (i j : Nat) : Rat := (ab.getD (max i j - min i j) []).getD (min i j) 0
/-- LAPACK full storage with u upper bands: `A[i,j] = ab[u + i − j, j]` when that row exists -/
def denFull (ab : List (List Rat)) (u i j : Nat) : Rat :=
  if j ≤ i + u ∧ u + i - j < ab.length then (ab.getD (u + i - j) []).getD j 0 else 0

/-! ### documented matrices -/
def dtdQ (n d i j : Nat) : Rat := ((DtD n d i j : Int) : Rat)
def delta (i j : Nat) (v : Rat) : Rat := if i = j then v else 0

/-- `W + λ D'D` -/
def docStd (n d : Nat) (lam : Rat) (w : List Rat) (i j : Nat) : Rat := delta i j (w.getD i 0) + lam * dtdQ n d i j
/-- iasls: `W'W + λ₁ D₁'D₁ + λ D'D` -/
def docIasls (n d : Nat) (lam lam1 : Rat) (w : List Rat) (i j : Nat) : Rat :=
  delta i j (w.getD i 0 * w.getD i 0) + lam1 * dtdQ n 1 i j + lam * dtdQ n d i j
/-- drpls: `W + D₁'D₁ + λ (I − η W) D'D` -/
def docDrpls (n d : Nat) (lam eta : Rat) (w : List Rat) (i j : Nat) : Rat :=
  delta i j (w.getD i 0) + dtdQ n 1 i j + lam * (1 - eta * w.getD i 0) * dtdQ n d i j
/-- aspls: `W + λ diag(α) D'D` -/
def docAspls (n d : Nat) (lam : Rat) (w alpha : List Rat) (i j : Nat) : Rat :=
  delta i j (w.getD i 0) + lam * alpha.getD i 0 * dtdQ n d i j

/-! ### assemblies, as coded -/
/-- asls & co.: `whittaker_system.add_diagonal(w)` on `lam * penalty` (lower or full, reversed or not) -/
def asmStd (n d : Nat) (lam : Rat) (w : List Rat) (lower reversed : Bool) : List (List Rat) :=
  let pen := scale lam (bandsQ n d lower)
  let pen := if reversed then pen.reverse else pen
  let mainIdx := if lower then (if reversed then d else 0) else d
  addRow pen mainIdx w

/-- iasls: penalty + λ₁·(first-order bands padded to the same number of rows), main row + w² -/
def asmIasls (n d : Nat) (lam lam1 : Rat) (w : List Rat) (lower reversed : Bool) : List (List Rat) :=
  let pen := scale lam (bandsQ n d lower)
  let pen := if reversed then pen.reverse else pen
  let d1 := scale lam1 (if lower then padLower (bandsQ n 1 true) (d - 1) n else padFull (bandsQ n 1 false) (d - 1) n)
  let d1 := if reversed then d1.reverse else d1
  let mainIdx := if lower then (if reversed then d else 0) else d
  addRow (addB pen d1) mainIdx (w.map fun v => v * v)

/-- aspls (SciPy branch): `_shift_rows((penalty_reversed * alpha) with main row + w, d, d)`;
pentapy branch: the same array without the shift (row-wise storage) -/
def asmAspls (n d : Nat) (lam : Rat) (w alpha : List Rat) (pentapy : Bool) : List (List Rat) :=
  let lhs := addRow (colScale (scale lam (bandsQ n d false)).reverse alpha) d w
  if pentapy then lhs else shiftRows lhs d d

/-- drpls (SciPy branch): `(penalty + D1 padded) + _shift_rows(((−η·penalty)[::-1] with main + 1) * w, d, d)` -/
def asmDrpls (n d : Nat) (lam eta : Rat) (w : List Rat) (pentapy : Bool) : List (List Rat) :=
  let pen := scale lam (bandsQ n d false)
  let diffn := addRowC (scale (-eta) pen).reverse d 1
  let base := addB pen (padFull (bandsQ n 1 false) (d - 1) n)
  if pentapy then addB base.reverse (colScale diffn w)
  else addB base (shiftRows (colScale diffn w) d d)

/-- iasls right-hand side helper: the closed form used for `D₁'D₁ y` -/
def d1y (y : List Rat) : List Rat :=
  let n := y.length
  (List.range n).map fun (i : Nat) =>
    if n < 2 then y.getD i 0
    else if i = 0 then y.getD 0 0 - y.getD 1 0
    else if i = n - 1 then y.getD (n - 1) 0 - y.getD (n - 2) 0
    else 2 * y.getD i 0 - y.getD (i - 1) 0 - y.getD (i + 1) 0

/-! ### exact residuals of a returned baseline against the DOCUMENTED system (not the captured bands) -/
def absQ (q : Rat) : Rat := if q < 0 then -q else q
def maxL (l : List Rat) : Rat := l.foldl (fun a b => if a < b then b else a) 0

/-- rows of a banded documented matrix applied to v: only columns within bandwidth b of i -/
def applyBanded (doc : Nat → Nat → Rat) (n b : Nat) (v : List Rat) : List Rat :=
  (List.range n).map fun (i : Nat) =>
    sumL ((List.range (2 * b + 1)).map fun (t : Nat) =>
      if i + t < b then 0 else let j := i + t - b; if j < n then doc i j * v.getD j 0 else 0)
def rowAbsSums (doc : Nat → Nat → Rat) (n b : Nat) : List Rat :=
  (List.range n).map fun (i : Nat) =>
    sumL ((List.range (2 * b + 1)).map fun (t : Nat) =>
      if i + t < b then 0 else let j := i + t - b; if j < n then absQ (doc i j) else 0)

/-- normwise backward error pieces: (‖A v − b‖∞, ‖A‖∞ ‖v‖∞ + ‖b‖∞) -/
def backwardError (doc : Nat → Nat → Rat) (n b : Nat) (v rhs : List Rat) : Rat × Rat :=
  let av := applyBanded doc n b v
  let r := maxL ((List.zipWith (· - ·) av rhs).map absQ)
  (r, maxL (rowAbsSums doc n b) * maxL (v.map absQ) + maxL (rhs.map absQ))

end PbVerif.Whittaker

namespace PbVerif.Whittaker
open PbVerif.Banded

/-- `(D'D)[i,j]` through the O(d) offset form (proved equal to the dense definition in `Lemmas/BandTable`) -/
def dtdFastQ (n d i j : Nat) : Rat :=
  if i ≤ j then ((dtdOff n d i (j - i) : Int) : Rat) else ((dtdOff n d j (i - j) : Int) : Rat)

inductive Kind | std | iasls | drpls | aspls
deriving DecidableEq, Repr

/-- the documented matrix of each kind with the fast D'D (what the driver evaluates) -/
def docFast (k : Kind) (n d : Nat) (lam p1 : Rat) (w alpha : List Rat) (i j : Nat) : Rat :=
  match k with
  | .std => delta i j (w.getD i 0) + lam * dtdFastQ n d i j
  | .iasls => delta i j (w.getD i 0 * w.getD i 0) + p1 * dtdFastQ n 1 i j + lam * dtdFastQ n d i j
  | .drpls => delta i j (w.getD i 0) + dtdFastQ n 1 i j + lam * (1 - p1 * w.getD i 0) * dtdFastQ n d i j
  | .aspls => delta i j (w.getD i 0) + lam * alpha.getD i 0 * dtdFastQ n d i j

/-- the documented right-hand side -/
def rhsDoc (k : Kind) (p1 : Rat) (w y : List Rat) : List Rat :=
  match k with
  | .iasls => List.zipWith (· + ·) (List.zipWith (fun a b => a * a * b) w y) ((d1y y).map (p1 * ·))
  | _ => List.zipWith (· * ·) w y

/-- 2-D: `W + λ_r (D_r'D_r ⊗ I) + λ_c (I ⊗ D_c'D_c)` acting on the row-major vec of an M×N array -/
def doc2d (m n dr dc : Nat) (lamr lamc : Rat) (w : List Rat) (a b : Nat) : Rat :=
  let (i, j) := (a / n, a % n)
  let (i', j') := (b / n, b % n)
  delta a b (w.getD a 0) + (if j = j' then lamr * dtdFastQ m dr i i' else 0) + (if i = i' then lamc * dtdFastQ n dc j j' else 0)

def backwardErrorDense (doc : Nat → Nat → Rat) (n : Nat) (v rhs : List Rat) : Rat × Rat :=
  let av := (List.range n).map fun (i : Nat) => sumL ((List.range n).map fun (j : Nat) => doc i j * v.getD j 0)
  let rs := (List.range n).map fun (i : Nat) => sumL ((List.range n).map fun (j : Nat) => absQ (doc i j))
  (maxL ((List.zipWith (· - ·) av rhs).map absQ), maxL rs * maxL (v.map absQ) + maxL (rhs.map absQ))

end PbVerif.Whittaker

namespace PbVerif.Whittaker

/-! ### the 2-D penalty as `two_d/_whittaker_utils.py: PenalizedSystem2D.reset_diagonals` builds it
(`kron(lam_r·P_r, identity(n)) + kron(identity(m), lam_c·P_c)`), and `add_diagonal`
(`penalty.setdiag(main_diagonal + w)`) -/

/-- entry (a, b) of `scipy.sparse.kron(A, B)` for an `n × n` right factor: `A[a // n, b // n] · B[a % n, b % n]` -/
def kronE (A B : Nat → Nat → Rat) (n a b : Nat) : Rat := A (a / n) (b / n) * B (a % n) (b % n)
/-- `scipy.sparse.identity` -/
def idE (i j : Nat) : Rat := if i = j then 1 else 0

/-- `self.penalty = P_rows + P_columns` -/
def pen2d (m n dr dc : Nat) (lamr lamc : Rat) (a b : Nat) : Rat :=
  kronE (fun p q => lamr * dtdFastQ m dr p q) idE n a b + kronE idE (fun p q => lamc * dtdFastQ n dc p q) n a b

/-- the `lhs` handed to `direct_solve`: the penalty with `main_diagonal + weights` on the diagonal -/
def asm2d (m n dr dc : Nat) (lamr lamc : Rat) (w : List Rat) (a b : Nat) : Rat :=
  if a = b then pen2d m n dr dc lamr lamc a a + w.getD a 0 else pen2d m n dr dc lamr lamc a b

def asm2dRows (m n dr dc : Nat) (lamr lamc : Rat) (w : List Rat) : List (List Rat) :=
  (List.range (m * n)).map fun (a : Nat) => (List.range (m * n)).map fun (b : Nat) => asm2d m n dr dc lamr lamc w a b

end PbVerif.Whittaker

namespace PbVerif.Whittaker
open PbVerif.Banded

/-! ### jbcd (`morphological.py: _Morphological.jbcd`): two banded systems per iteration, both `c · penalty` with a constant added to
the main row (`_setup_whittaker(y, lam=1, diff_order)`, so `whittaker_system.penalty` is `1 · D'D` in the layout of the solver:
lower, full, or full reversed under pentapy) -/

/-- `lhs = c * whittaker_system.penalty; lhs[main_diag_idx] += diag` -/
def asmJbcd (n d : Nat) (c diag : Rat) (lower reversed : Bool) : List (List Rat) :=
  let pen := scale c (scale 1 (bandsQ n d lower))
  let pen := if reversed then pen.reverse else pen
  let mainIdx := if lower then 0 else d
  addRowC pen mainIdx diag

/-- `lhs_1 = gamma * penalty; lhs_1[main] += 1` (signal step) — NOTE the code uses `gamma`, the documentation `2·gamma` -/
def asmJbcdSignal (n d : Nat) (gamma : Rat) (lower reversed : Bool) : List (List Rat) := asmJbcd n d gamma 1 lower reversed
/-- `lhs_2 = (2 * beta) * penalty; lhs_2[main] += 1 + 2 * alpha` (baseline step) -/
def asmJbcdBaseline (n d : Nat) (alpha beta : Rat) (lower reversed : Bool) : List (List Rat) :=
  asmJbcd n d (2 * beta) (1 + 2 * alpha) lower reversed

/-- `diag·I + c·D'D` -/
def docJbcd (n d : Nat) (c diag : Rat) (i j : Nat) : Rat := delta i j diag + c * dtdQ n d i j

end PbVerif.Whittaker
