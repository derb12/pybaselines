import PbVerif.Model.Weighting
/-! M-WExpr (C09, Route A): a small deep-embedded expression language for the FINAL WEIGHT EXPRESSION of each
rule of `pybaselines/_weighting.py`, as produced by `harness/pbv/translate_weights.py` on every run
(`Gen/WeightExprs.lean`).  `eval` gives an expression its meaning over any number type with `exp`, `sqrt`,
`abs` (`Weighting.Transc`): an ordered field for the theorems (`Props/C09.lean`; simp set `wexpr` in `Lemmas/WExpr.lean`), `Float` for the driver
(`c09.wexpr`).  Import-free (core Lean only). -/
namespace PbVerif.WExpr
open PbVerif.Weighting

/-- integer-valued sub-expressions: literals, the 1-based `iteration` argument, Python's `min` of two integers -/
inductive NExpr where
  | lit (n : Nat)
  | var (name : String)
  | min (a b : NExpr)
deriving Repr, BEq

/-- the translated fragment.  One value per data point: `r` is the point's residual `y - baseline`, `var` a named
scalar argument of the rule (`p`, `k`, `asymmetric_coef`, `quantile`, `eps`), a per-point argument
(`partial_weights`) or a STEP STATISTIC that the hand model also takes as a parameter (`std`, `meanNeg`, `sumNeg`,
`clipMax`, `maxNegW`, `minFloat`). -/
inductive Expr where
  | nat (n : Nat)                    -- integer literal
  | rat (n d : Nat)                  -- decimal literal, exactly `n / d`
  | var (name : String)
  | r
  | ofNat (e : NExpr)                -- an integer expression used as a number
  | add (a b : Expr)
  | sub (a b : Expr)
  | mul (a b : Expr)
  | div (a b : Expr)
  | neg (a : Expr)
  | abs (a : Expr)                   -- `np.abs`
  | sqrt (a : Expr)                  -- `np.sqrt`
  | exp (a : Expr)                   -- `np.exp`
  | expit (a : Expr)                 -- `scipy.special.expit`
  | pow (a : Expr) (e : NExpr)       -- `a ** e` with an integer exponent
  | min (a b : Expr)                 -- Python `min(a, b)`; `np.clip(x, lo, hi)` is `min (max x lo) hi`
  | max (a b : Expr)                 -- Python `max(a, b)`
  | iflt (a b t e : Expr)            -- `np.where(a < b, t, e)` / masked assignment over a default
deriving Repr, BEq

/-- the inputs of one data point: its residual, the named numbers and the named integers -/
structure Env (α : Type) where
  r : α
  s : String → α
  n : String → Nat

def evalN (n : String → Nat) : NExpr → Nat
  | .lit k => k
  | .var x => n x
  | .min a b => min (evalN n a) (evalN n b)          -- Python `min` of two integers

section eval
variable {α : Type} [Add α] [Sub α] [Mul α] [Div α] [Neg α] [OfNat α 1] [NatCast α] [Pow α Nat]
  [LT α] [DecidableLT α] [Transc α]

/-- Python `min(a, b)`: `b` if `b < a` else `a` -/
def pmin (a b : α) : α := if b < a then b else a
/-- Python `max(a, b)`: `b` if `b > a` else `a` -/
def pmax (a b : α) : α := if a < b then b else a

def eval (env : Env α) : Expr → α
  | .nat k => (k : α)
  | .rat k d => (k : α) / (d : α)
  | .var x => env.s x
  | .r => env.r
  | .ofNat e => ((evalN env.n e : Nat) : α)
  | .add a b => eval env a + eval env b
  | .sub a b => eval env a - eval env b
  | .mul a b => eval env a * eval env b
  | .div a b => eval env a / eval env b
  | .neg a => -eval env a
  | .abs a => Transc.abs (eval env a)
  | .sqrt a => Transc.sqrt (eval env a)
  | .exp a => Transc.exp (eval env a)
  | .expit a => Weighting.expit (eval env a)
  | .pow a e => eval env a ^ evalN env.n e
  | .min a b => pmin (eval env a) (eval env b)
  | .max a b => pmax (eval env a) (eval env b)
  | .iflt a b t e => if eval env a < eval env b then eval env t else eval env e

end eval

/-- the named integers / named numbers an expression reads (the driver refuses to evaluate when one is not supplied) -/
def NExpr.vars : NExpr → List String
  | .lit _ => []
  | .var x => [x]
  | .min a b => a.vars ++ b.vars
def Expr.nvars : Expr → List String
  | .ofNat e => e.vars
  | .pow a e => a.nvars ++ e.vars
  | .add a b | .sub a b | .mul a b | .div a b | .min a b | .max a b => a.nvars ++ b.nvars
  | .neg a | .abs a | .sqrt a | .exp a | .expit a => a.nvars
  | .iflt a b t e => a.nvars ++ b.nvars ++ t.nvars ++ e.nvars
  | _ => []
def Expr.vars : Expr → List String
  | .var x => [x]
  | .pow a _ => a.vars
  | .add a b | .sub a b | .mul a b | .div a b | .min a b | .max a b => a.vars ++ b.vars
  | .neg a | .abs a | .sqrt a | .exp a | .expit a => a.vars
  | .iflt a b t e => a.vars ++ b.vars ++ t.vars ++ e.vars
  | _ => []

/-- the driver's evaluation of a translated expression at every point of a residual vector; `pv` are the
per-point named inputs (`partial_weights`), looked up before the scalars -/
def evalFloatVec (e : Expr) (scalars : List (String × Float)) (nats : List (String × Nat))
    (pv : List (String × List Float)) (rs : List Float) : Option (List Float) :=
  if !(e.vars.all fun x => pv.any (·.1 == x) || scalars.any (·.1 == x)) || !(e.nvars.all fun x => nats.any (·.1 == x))
      || pv.any (·.2.length != rs.length) then none else
  let look (i : Nat) (x : String) : Float :=
    match pv.find? (·.1 == x) with
    | some (_, l) => l.getD i (0.0 / 0.0)
    | none => match scalars.find? (·.1 == x) with
      | some (_, v) => v
      | none => 0.0 / 0.0
  let lookN (x : String) : Nat := match nats.find? (·.1 == x) with | some (_, v) => v | none => 0
  some ((rs.zipIdx).map fun (r, i) => eval ⟨r, look i, lookN⟩ e)

end PbVerif.WExpr
