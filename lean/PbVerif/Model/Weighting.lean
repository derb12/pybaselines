import PbVerif.Gen.Consts
/-! M-Weighting (C09): the reweighting rules of `_weighting.py`, written once over an arbitrary
number type with `exp`, `sqrt`, `abs` (`Transc`) and instantiated at `Float` for the driver.
Theorems are proved over ordered fields in `Props/C09.lean`, from the shapes of `Lemmas/Weighting.lean`.  Import-free. -/
namespace PbVerif.Weighting

class Transc (α : Type) where
  exp : α → α
  sqrt : α → α
  abs : α → α

instance : Transc Float := ⟨Float.exp, Float.sqrt, Float.abs⟩
/-- integers enter float arithmetic by conversion (`np.exp(min(iteration, 100))`, `10**k / std`) -/
scoped instance : NatCast Float := ⟨Nat.toFloat⟩
scoped instance : Pow Float Nat := ⟨fun b n => Float.pow b n.toFloat⟩

section rules
variable {α : Type} [Add α] [Sub α] [Mul α] [Div α] [Neg α] [OfNat α 0] [OfNat α 1] [OfNat α 2]
  [LT α] [DecidableLT α] [Transc α]

/-- `scipy.special.expit(x) = 1 / (1 + exp(-x))` -/
def expit (x : α) : α := 1 / (1 + Transc.exp (-x))

/-- asls: `np.where(y > baseline, p, 1 - p)` -/
def aslsW (p r : α) : α := if 0 < r then p else 1 - p

/-- arpls: `expit(-(2 / std) * (residual - (2 * std - mean(neg_residual))))` -/
def arplsW (std mean r : α) : α := expit (-(2 / std) * (r - (2 * std - mean)))

/-- the shared shape of drpls (`K = exp(min(iteration, 100))`) and lsrpls (`K = 10 ** min(iteration, 100)`):
`inner = K / std * (residual - (2 * std - mean))`, `0.5 * (1 - inner / (1 + |inner|))` -/
def drplsW (K std mean r : α) : α :=
  let inner := K / std * (r - (2 * std - mean))
  (1 / 2) * (1 - inner / (1 + Transc.abs inner))

/-- iarpls: `inner = exp(min(iteration, 100)) / std * (residual - 2 * std)`, `0.5 * (1 - inner / sqrt(1 + inner**2))` -/
def iarplsW (K std r : α) : α :=
  let inner := K / std * (r - 2 * std)
  (1 / 2) * (1 - inner / Transc.sqrt (1 + inner * inner))

/-- aspls: `expit(-(asymmetric_coef / std) * (residual - std))` -/
def asplsW (k std r : α) : α := expit (-(k / std) * (r - std))

/-- psalsa: `1 - p` where `residual <= 0`, `p * exp(-residual / k)` where `residual > 0` -/
def psalsaW (p k r : α) : α := if 0 < r then p * Transc.exp (-(r / k)) else 1 - p

/-- derpsalsa: like psalsa with a Gaussian tail, times the fixed partial weight of the point -/
def derpsalsaW (p k pw r : α) : α :=
  (if 0 < r then p * Transc.exp (-((1 / 2) * ((r / k) * (r / k)))) else 1 - p) * pw

/-- airpls before normalisation: `exp(clip(t / S * r, 0, M))` on negative residuals (S = their sum < 0), 0 elsewhere -/
def airplsRaw (t S M r : α) : α :=
  if r < 0 then
    let a := t / S * r
    Transc.exp (if a < 0 then 0 else if M < a then M else a)
  else 0

/-- quantile loss weight (irsqr, quant_reg): `where(r > 0, q, 1 - q) / sqrt(r**2 + eps)` -/
def quantileW (q eps r : α) : α := (if 0 < r then q else 1 - q) / Transc.sqrt (r * r + eps)

/-- brpls given the value `e = erf(u)`: `1 / (1 + m * (1 + e) * exp(u**2))` -/
def brplsW (m u e : α) : α := 1 / (1 + m * (1 + e) * Transc.exp (u * u))

end rules

section caps
variable {α : Type} [NatCast α]
/-- `min(iteration, cap)` of the 1-based integer iteration count, used as a number -/
def capIter (cap it : Nat) : α := ((min it cap : Nat) : α)
/-- drpls, iarpls: `np.exp(min(iteration, 100))` -/
def expK [Transc α] (it : Nat) : α := Transc.exp (capIter 100 it)
/-- lsrpls: `10**(min(iteration, 100))` -/
def tenK [Pow α Nat] (it : Nat) : α := ((10 : Nat) : α) ^ (min it 100)
/-- airpls: `min(iteration, 50)` -/
def airplsT (it : Nat) : α := capIter 50 it
end caps

/-! ### executable vector-level rules at `Float` (what the driver runs) -/

def fsum (l : List Float) : Float := l.foldl (· + ·) 0
def fmean (l : List Float) : Float := fsum l / l.length.toFloat
/-- `array.std(ddof=1)` -/
def fstd1 (l : List Float) : Float :=
  let m := fmean l
  Float.sqrt (fsum (l.map fun v => (v - m) * (v - m)) / (l.length.toFloat - 1))
/-- `_MIN_FLOAT` of `pybaselines.utils` (read from the package on every run, `Gen/Consts.lean`): guard of `_safe_std` -/
def minFloat : Float := Float.ofBits PbVerif.Gen.minFloatBits
def safeStd1 (l : List Float) : Float :=
  if l.length < 2 then minFloat else let s := fstd1 l; if s == 0 then minFloat else s

def negs (r : List Float) : List Float := r.filter (· < 0)

/-- result of a rule on a residual vector: weights and the early-exit flag -/
structure RuleOut where
  w : List Float
  exitEarly : Bool

def zerosLike (r : List Float) : List Float := r.map fun _ => 0

def fmin (a b : Float) : Float := if a < b then a else b

def ruleArpls (r : List Float) : RuleOut :=
  let n := negs r
  if n.length < 2 then ⟨zerosLike r, true⟩ else
    let s := safeStd1 n
    let mu := fmean n
    ⟨r.map (arplsW s mu), false⟩

def ruleDrpls (iteration : Nat) (r : List Float) : RuleOut :=
  let n := negs r
  if n.length < 2 then ⟨zerosLike r, true⟩ else
    let s := safeStd1 n
    ⟨r.map (drplsW (expK iteration) s (fmean n)), false⟩

def ruleLsrpls (iteration : Nat) (r : List Float) : RuleOut :=
  let n := negs r
  if n.length < 2 then ⟨zerosLike r, true⟩ else
    let s := safeStd1 n
    ⟨r.map (drplsW (tenK iteration) s (fmean n)), false⟩

def ruleIarpls (iteration : Nat) (r : List Float) : RuleOut :=
  let n := negs r
  if n.length < 2 then ⟨zerosLike r, true⟩ else
    ⟨r.map (iarplsW (expK iteration) (safeStd1 n)), false⟩

def ruleAspls (k : Float) (r : List Float) : RuleOut :=
  let n := negs r
  if n.length < 2 then ⟨zerosLike r, true⟩ else ⟨r.map (asplsW k (safeStd1 n)), false⟩

/-- airpls: `log_max = log(finfo.max)`, clip upper bound `log_max - spacing(log_max)` passed in as `M` -/
def ruleAirpls (iteration : Nat) (normalize : Bool) (M : Float) (r : List Float) : RuleOut :=
  let n := negs r
  if n.length < 2 then ⟨zerosLike r, true⟩ else
    let S := fsum n
    let raw := r.map (airplsRaw (airplsT iteration) S M)
    if normalize then
      let mx := (raw.zip r).foldl (fun acc (p : Float × Float) => if p.2 < 0 && acc < p.1 then p.1 else acc) 0
      ⟨(raw.zip r).map fun (p : Float × Float) => if p.2 < 0 then p.1 / mx else p.1, false⟩
    else ⟨raw, false⟩

def ruleAsls (p : Float) (r : List Float) : RuleOut := ⟨r.map (aslsW p), false⟩
def rulePsalsa (p k : Float) (r : List Float) : RuleOut := ⟨r.map (psalsaW p k), false⟩
def ruleDerpsalsa (p k : Float) (pw r : List Float) : RuleOut :=
  ⟨(r.zip pw).map fun (x : Float × Float) => derpsalsaW p k x.2 x.1, false⟩
def ruleQuantile (q eps : Float) (r : List Float) : RuleOut := ⟨r.map (quantileW q eps), false⟩

end PbVerif.Weighting
